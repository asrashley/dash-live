-- Root of the `DashLive` library (written by harness/setup.py: every module present).
import DashLive.Model.Aes128
import DashLive.Model.Auth
import DashLive.Model.Bits
import DashLive.Model.Box
import DashLive.Model.Boxes.Audio
import DashLive.Model.Boxes.Basic
import DashLive.Model.Boxes.Cenc
import DashLive.Model.Boxes.Frag
import DashLive.Model.Boxes.Header
import DashLive.Model.Boxes.Index
import DashLive.Model.BufReader
import DashLive.Model.Bytes
import DashLive.Model.Calendar
import DashLive.Model.ClearKey
import DashLive.Model.Crc32
import DashLive.Model.Csrf
import DashLive.Model.Events
import DashLive.Model.Indexing
import DashLive.Model.InitRewrite
import DashLive.Model.Inject
import DashLive.Model.IsoText
import DashLive.Model.Life
import DashLive.Model.LiveTiming
import DashLive.Model.OptionErrors
import DashLive.Model.Options
import DashLive.Model.Patch
import DashLive.Model.Periods
import DashLive.Model.PlayReady
import DashLive.Model.Range
import DashLive.Model.Scte35
import DashLive.Model.SegmentRewrite
import DashLive.Model.Segments
import DashLive.Model.Sha256
import DashLive.Model.Store
import DashLive.Model.Validator
import DashLive.Model.WrmHeader
import DashLive.Model.Xml
import DashLive.Gen.Arith
import DashLive.Gen.BufSeek
import DashLive.Gen.Emsg
import DashLive.Gen.LiveIndex
import DashLive.Gen.LiveTiming
import DashLive.Gen.Manifests
import DashLive.Gen.Options
import DashLive.Gen.ParserLoops
import DashLive.Gen.PeriodTimeline
import DashLive.Gen.Routes
import DashLive.Gen.TemplateSites
import DashLive.Gen.Timeline
import DashLive.Gen.WrmHeader
import DashLive.Lemmas.Ascii
import DashLive.Lemmas.Avail
import DashLive.Lemmas.Box
import DashLive.Lemmas.Bits
import DashLive.Lemmas.BoxEdit
import DashLive.Lemmas.BoxTree
import DashLive.Lemmas.Boxes.Audio
import DashLive.Lemmas.Boxes.Basic
import DashLive.Lemmas.Boxes.Cenc
import DashLive.Lemmas.Boxes.Frag
import DashLive.Lemmas.Boxes.Index
import DashLive.Lemmas.BufReader
import DashLive.Lemmas.Bytes
import DashLive.Lemmas.Calendar
import DashLive.Lemmas.ClearKey
import DashLive.Lemmas.Crc32
import DashLive.Lemmas.Csrf
import DashLive.Lemmas.Events
import DashLive.Lemmas.Evolve
import DashLive.Lemmas.InitRewrite
import DashLive.Lemmas.Inject
import DashLive.Lemmas.IsoText
import DashLive.Lemmas.LiveTiming
import DashLive.Lemmas.Options
import DashLive.Lemmas.Periods
import DashLive.Lemmas.PlayReady
import DashLive.Lemmas.Range
import DashLive.Lemmas.Scte35
import DashLive.Lemmas.SegmentRewrite
import DashLive.Lemmas.Segments
import DashLive.Lemmas.Store
import DashLive.Lemmas.Timeline
import DashLive.Lemmas.Validator
import DashLive.Lemmas.Vod
import DashLive.Lemmas.WrmHeader
import DashLive.Lemmas.Xml
import DashLive.Lemmas.XmlLex
import DashLive.Props.C01
import DashLive.Props.C02
import DashLive.Props.C03
import DashLive.Props.C04
import DashLive.Props.C05
import DashLive.Props.C06
import DashLive.Props.C07
import DashLive.Props.C07Dt
import DashLive.Props.C08
import DashLive.Props.C09
import DashLive.Props.C10
import DashLive.Props.C11
import DashLive.Props.C11WrmHeader
import DashLive.Props.C12
import DashLive.Props.C13
import DashLive.Props.C14
import DashLive.Props.C15
import DashLive.Props.C16
import DashLive.Props.C17
import DashLive.Props.C18
import DashLive.Props.C19
import DashLive.Props.C20
import DashLive.Props.GenTie
import DashLive.Props.GenTieBufReader
import DashLive.Props.GenTieEmsg
import DashLive.Props.GenTieLiveIndex
import DashLive.Props.GenTieLiveTiming
import DashLive.Props.GenTiePeriods
import DashLive.Props.GenTieTimeline
import DashLive.Props.Generated
