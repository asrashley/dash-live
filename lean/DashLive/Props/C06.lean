import DashLive.Lemmas.Vod
/-!
# C06 – static manifests describe the stored media completely and exactly

Model: `Model/Segments.lean` (`vodIndex`, `timelineVod`, `servedTfdt`), `Model/Indexing.lean` (segment
extents of `Representation.load`, byte ranges of `generateSegmentList`).  The `$Time$` theorems reduce to
`vod_numbers` through `vodIndex_time`; `ranges_tile_partial` is the invariant `RevTile` of the indexing
fold (`foldl_tile`).
-/
namespace DashLive.Segments

/-- **VOD `$Number$` enumeration.**  Numbers `sn … sn+n−1` map to stored segments
`1 … n` with origin 0; every number past the end – and every number below `sn` – is
refused (404). -/
theorem vod_numbers (n sd sn : Nat) (k : Int) :
    vodIndex n sd sn (.number k) =
      if (sn : Int) ≤ k ∧ k ≤ (n : Int) + sn - 1 then .ok (1 + k - sn).toNat 0 k else .notFound := by
  unfold vodIndex firstLastVod
  dsimp only
  by_cases h : (sn : Int) ≤ k ∧ k ≤ (n : Int) + sn - 1
  · rw [if_pos h, if_neg (by omega)]
  · rw [if_neg h, if_pos (by omega)]

theorem vod_numbers_enumerated (n sd sn j : Nat) :
    (j < n → vodIndex n sd sn (.number ((sn : Int) + j)) = .ok (j + 1) 0 ((sn : Int) + j)) ∧
    (vodIndex n sd sn (.number ((sn : Int) + n)) = .notFound) := by
  refine ⟨fun hj => ?_, ?_⟩
  · rw [vod_numbers, if_pos (by omega)]
    congr 1
    omega
  · rw [vod_numbers, if_neg (by omega)]

/-- **the VOD SegmentTimeline is exactly the stored media**: its DASH expansion is
`[(P_i, d_i) | i < n]` – every stored segment once, starting at 0, nothing after the
last (defect D18: a track shorter than the timing reference must not wrap around and list
an extra entry; `timelineVod` ends at the track's own duration). -/
theorem vod_timeline_exact (durs : List Nat) (fuel : Nat) (hn : 0 < durs.length)
    (hpos : ∀ m, m < durs.length → 1 ≤ durAt durs m) (hf : durs.length ≤ fuel) :
    expand (timelineVod durs fuel)
      = (List.range' 0 durs.length).map (fun i => ((prefixSum durs i : Int), (durAt durs i : Int))) := by
  unfold timelineVod
  have hpos' : ∀ m, m < durs.length → 0 < advDur durs 0 m := by
    intro m hm; rw [advDur_zero]; have := hpos m hm; omega
  rw [tlLoop_expand durs 0 0 _ hpos' _ _ hn]
  have := rawLoop_vod durs hpos fuel 0 0 (Nat.zero_le _) hf (fun _ => rfl)
  rwa [prefixSum_zero, Int.natCast_zero] at this

theorem vod_timeline_total (durs : List Nat) (fuel : Nat) (hn : 0 < durs.length)
    (hpos : ∀ m, m < durs.length → 1 ≤ durAt durs m) (hf : durs.length ≤ fuel) :
    ((expand (timelineVod durs fuel)).map (·.2)).sum = (durs.sum : Int) ∧
    (expand (timelineVod durs fuel)).length = durs.length := by
  rw [vod_timeline_exact durs fuel hn hpos hf]
  constructor
  · rw [List.map_map, Function.comp_def, sum_durAt durs _ 0 (Nat.le_of_eq (Nat.zero_add _)),
      Nat.zero_add, prefixSum_length, prefixSum_zero]
    exact Int.sub_zero _
  · simp

/-- **VOD `$Time$` addressing** (partial): when the cumulative position `P_k` of stored
segment `k+1` lies within `[k·sd − sd/4, (k+1)·sd − sd/4)` the request `$Time$ = P_k` is
served from that segment.  (`(t + sd/4) // sd`, representation.py:494-497; the code
carries a TODO for irregular durations – finding D11.) -/
theorem vod_time_partial (durs : List Nat) (sd sn k : Nat) (hk : k < durs.length)
    (hreg : k * sd ≤ prefixSum durs k + sd / 4 ∧ prefixSum durs k + sd / 4 < (k + 1) * sd) :
    vodIndex durs.length sd sn (.time (prefixSum durs k)) = .ok (k + 1) 0 ((k : Int) + sn) := by
  rw [vodIndex_time, Nat.div_eq_of_lt_le hreg.1 hreg.2, vod_numbers, if_pos (by omega)]
  congr 1
  omega

/-- **VOD `$Time$` past the end**: the time just past the end of the media is refused, under the
condition `n·sd ≤ Σ durs + sd/4` (otherwise – a short last segment – it is served from
the last stored segment: same finding D11). -/
theorem vod_time_past_end (durs : List Nat) (sd sn : Nat) (hsd : 0 < sd)
    (hreg : durs.length * sd ≤ durs.sum + sd / 4) :
    vodIndex durs.length sd sn (.time durs.sum) = .notFound := by
  have hq : durs.length ≤ (durs.sum + sd / 4) / sd := (Nat.le_div_iff_mul_le hsd).mpr hreg
  rw [vodIndex_time, vod_numbers, if_neg (by omega)]

/-- **fetched in order the VOD segments form one gapless track** starting at the file's
first decode time `st`: number `sn + j` carries decode time `st + P_j`, consecutive
segments differ by the stored duration, and the last one ends at `st + Σ durs`. -/
theorem vod_gapless (durs : List Nat) (st j : Nat) (hj : j < durs.length) :
    servedTfdt durs (some fun k => st + prefixSum durs k) (j + 1) 0 = st + prefixSum durs j ∧
    servedTfdt durs none (j + 1) 0 = prefixSum durs j ∧
    prefixSum durs (j + 1) = prefixSum durs j + durAt durs j ∧
    prefixSum durs durs.length = durs.sum := by
  refine ⟨by simp [servedTfdt], by simp [servedTfdt], prefixSum_succ hj, prefixSum_length durs⟩

/-- irregular durations: the third segment (`P_2 = 800`) of `[100,700,100,700]`,
`sd = 400`, is served from stored segment 3 … but `$Time$ = P_1 = 100` is served from
stored segment 1, not 2 -/
example : vodIndex 4 400 1 (.time (prefixSum [100, 700, 100, 700] 1)) = .ok 1 0 1 := by decide

example : ¬ (1 * 400 ≤ prefixSum [100, 700, 100, 700] 1 + 400 / 4) := by decide

/-- non-vacuity: a regular track satisfies the hypothesis at every index -/
example : ∀ k, k < 4 → k * 960 ≤ prefixSum [960, 960, 960, 950] k + 960 / 4 ∧
    prefixSum [960, 960, 960, 950] k + 960 / 4 < (k + 1) * 960 := by decide

end DashLive.Segments

namespace DashLive.Indexing

/-- **on-demand byte ranges tile the stored file.**  For a file whose top-level boxes lie
back to back from `a` to `e`, start with `ftyp`, and are all of the kinds the indexing
loop attributes (`ftyp moov sidx free moof mdat`), the indexed segments lie back to back
from `a` to `e`: the initialization range ends where the first media range begins, every
range begins where the previous one ends and the last ends at the end of the file. -/
theorem ranges_tile_partial (first : Box) (rest : List Box) (a e : Nat)
    (hfirst : first.kind = .ftyp) (ht : BoxTile (first :: rest) a e) (hk : Known (first :: rest)) :
    Tile (index (first :: rest)) a e ∧ index (first :: rest) ≠ [] := by
  unfold index
  simp only [List.foldl_cons]
  simp only [BoxTile] at ht
  have h0 : step [] first = [{ pos := first.pos, size := first.size }] := by
    unfold step; simp [hfirst]
  rw [h0]
  have hrev : RevTile [({ pos := first.pos, size := first.size } : Seg)] a (first.pos + first.size) := by
    simp [RevTile, ht.1]
  obtain ⟨h1, h2⟩ := foldl_tile rest _ a _ e hrev (by simp) ht.2
    (fun x hx => hk x (List.mem_cons_of_mem _ hx))
  exact ⟨revTile_reverse h1, by simpa using h2⟩

/-- every indexed segment starts on an `ftyp` or a `moof` box: a media range begins on the
first box of a fragment -/
theorem segments_start_on_moof (boxes : List Box) :
    ∀ acc : List Seg, (∀ s ∈ acc, ∃ b ∈ boxes, (b.kind = .ftyp ∨ b.kind = .moof) ∧ b.pos = s.pos) →
      ∀ bs : List Box, (∀ b ∈ bs, b ∈ boxes) →
      ∀ s ∈ bs.foldl step acc, ∃ b ∈ boxes, (b.kind = .ftyp ∨ b.kind = .moof) ∧ b.pos = s.pos := by
  intro acc hacc bs
  induction bs generalizing acc with
  | nil => intro _ s hs; exact hacc s hs
  | cons b rest ih =>
    intro hsub
    refine ih _ (fun s hs => ?_) fun x hx => hsub x (List.mem_cons_of_mem _ hx)
    rcases step_pos acc b s hs with ⟨hk, hp⟩ | ⟨s', hs', hp⟩
    · exact ⟨b, hsub b List.mem_cons_self, hk, hp.symm⟩
    · obtain ⟨bb, hb1, hb2, hb3⟩ := hacc s' hs'
      exact ⟨bb, hb1, hb2, hb3.trans hp.symm⟩

/-- **indexing records the stored durations**: the durations of the indexed representation
are the per-fragment sums of sample durations (a 0 sample duration = the `trex` default), the
start number is the first `mfhd.sequence_number`, and for ≥ 2 fragments `mediaDuration` is
their sum – for every fragment list. -/
theorem load_durations (dflt : Nat) (frags : List Frag) :
    (loadRep dflt frags).durs = frags.map (fragDur dflt) ∧
    (2 ≤ frags.length → (loadRep dflt frags).mediaDuration = some ((frags.map (fragDur dflt)).sum)) ∧
    (∀ f fs, frags = f :: fs → (loadRep dflt frags).startNumber = f.seq) := by
  refine ⟨?_, ?_, ?_⟩
  · simp [loadRep, foldl_loadStep_durs]
  · intro h
    have : frags.length + 1 > 2 := by omega
    simp [loadRep, foldl_loadStep_durs, this]
  · intro f fs hf
    subst hf
    simp only [loadRep, List.foldl_cons]
    rw [(foldl_loadStep_first dflt fs _).1 f.seq (by simp [loadStep])]
    rfl

/-- **a file with consistent `tfdt` boxes** (`tfdt_k = t0 + Σ_{i<k} d_i`) is indexed with
`start_time = t0` and `segment_duration = (t0 + Σ_{i<n-1} d_i) // (n-1)`: the decode time of every
stored fragment is `start_time + P_k`, the assumption C02's `C02_time_tfdt` makes about stored
files.  (Note the estimate includes `t0`: a non-zero first decode time inflates it.) -/
theorem load_consistent (dflt t0 : Nat) (f : Frag) (fs : List Frag)
    (hc : ConsistentFrom dflt t0 (f :: fs)) (h2 : 1 ≤ fs.length) :
    (loadRep dflt (f :: fs)).startTime = t0 ∧
    (loadRep dflt (f :: fs)).segmentDuration
      = some ((t0 + (((f :: fs).dropLast).map (fragDur dflt)).sum) / fs.length) := by
  constructor
  · simp only [loadRep, List.foldl_cons]
    simp only [ConsistentFrom] at hc
    rw [(foldl_loadStep_first dflt fs _).2 t0 (by simp [loadStep, hc.1])]
    rfl
  · have hs := foldl_loadStep_segStart dflt (f :: fs) {} t0 (by simp) hc
    have : (f :: fs).length + 1 > 2 := by simp; omega
    simp only [loadRep, this, if_true, hs]
    simp

example : ConsistentFrom 0 1000 [⟨1, some 1000, [240, 240]⟩, ⟨2, some 1480, [240, 240]⟩, ⟨3, some 1960, [100]⟩] := by
  simp [ConsistentFrom, fragDur]

example : loadRep 512 [⟨7, some 0, [0, 0, 0]⟩, ⟨8, none, [0, 0]⟩, ⟨9, none, [0, 0, 0]⟩]
    = { durs := [1536, 1024, 1536], startNumber := 7, startTime := 0,
        mediaDuration := some 4096, segmentDuration := some 1280 } := by decide

example : index [⟨.ftyp, 0, 24⟩, ⟨.moov, 24, 600⟩, ⟨.moof, 624, 100⟩, ⟨.mdat, 724, 900⟩,
    ⟨.sidx, 1624, 44⟩, ⟨.moof, 1668, 100⟩, ⟨.mdat, 1768, 800⟩]
    = [⟨0, 624⟩, ⟨624, 1044⟩, ⟨1668, 900⟩] := by decide

/-- a `styp` (kind `other`) between fragments is covered by no range: the ranges no longer tile -/
example : index [⟨.ftyp, 0, 24⟩, ⟨.moov, 24, 600⟩, ⟨.moof, 624, 100⟩, ⟨.mdat, 724, 900⟩,
    ⟨.other, 1624, 24⟩, ⟨.moof, 1648, 100⟩, ⟨.mdat, 1748, 800⟩]
    = [⟨0, 624⟩, ⟨624, 1000⟩, ⟨1648, 900⟩] := by decide

end DashLive.Indexing
