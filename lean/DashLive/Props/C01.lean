import DashLive.Lemmas.Evolve
import DashLive.Gen.Options
/-!
# C01 – every segment a live manifest advertises is retrievable

Property theorems with their hypotheses, and the check of the registered default leeway.
Model: `Model/Segments.lean` (`liveIndex` = the decision of
`LiveMedia.calculate_media_segment_index`, 200 vs 404).  The live window
`w = (E, tsbd, leeway)` is what `DashTiming` hands to the handler; C08 proves
`tsbd·10⁶ ≤ E` for it, and the manifest writes its resolved `start`/`depth` into the
media URLs so that the handler rebuilds the same window at the same instant.

Hypotheses (explicit, decidable):
* `AdvMicro`   – every advertised duration lasts at least 1 µs (`ts ≤ d·10⁶`; automatic
                 for timescales ≤ 10⁶ once durations are positive);
* `LeewayTime` – `(⌊d_max/2⌋ + 1)·10⁶ + ts ≤ leeway·ts`: the leeway covers the half
                 segment by which the timeline generator may reach back before
                 `firstAvailableTime` (plus rounding);
* `HalfSeg`    – `⌊d_max/2⌋ ≤ sd`;
* `LeewayNumber` – `2·sd·10⁶ + ts ≤ leeway·ts` for `$Number$` addressing.
With `leeway = 0` (an accepted option value) the statement is false – witness below (D9).
-/
namespace DashLive.Segments

/-- timecode of `firstAvailableTime` (representation.py:409-410) -/
def tcFirst (w : Win) (ts : Nat) : Nat := tdToTc (w.E - w.tsbd * 1000000) ts

def AdvMicro (durs : List Nat) (R ts : Nat) : Prop :=
  ∀ m, m < durs.length → (ts : Int) ≤ advDur durs ((R : Int) - (durs.sum : Int)) m * 1000000

def LeewayTime (durs : List Nat) (ts : Nat) (w : Win) : Prop :=
  (maxDur durs / 2 + 1) * 1000000 + ts ≤ w.leeway * ts

def HalfSeg (durs : List Nat) (sd : Nat) : Prop := maxDur durs / 2 ≤ sd

def LeewayNumber (ts sd : Nat) (w : Win) : Prop := 2 * sd * 1000000 + ts ≤ w.leeway * ts

theorem advMicro_pos {durs : List Nat} {R ts : Nat} (hts : 0 < ts) (h : AdvMicro durs R ts) :
    AdvPositive durs R := by
  intro m hm
  have := h m hm
  omega

theorem tcFirst_eq (w : Win) (ts : Nat) (hw : w.tsbd * 1000000 ≤ w.E) :
    tcFirst w ts + ts * w.tsbd = tdToTc w.E ts := by
  unfold tcFirst
  rw [tdToTc_eq, tdToTc_eq, ← Nat.add_mul_div_right _ _ (by omega : 0 < 1000000), Nat.mul_comm ts,
    Nat.mul_right_comm, ← Nat.add_mul, Nat.sub_add_cancel hw]

/-- **Core of C01 for `$Time$` addressing.**  Every position `g` at or after the first
listed one whose advertised end is not later than now is accepted by the handler
(HTTP 200), and it is served from the segment `get_segment_index` selects. -/
theorem C01_time_core (conv : Nat → Int) (durs : List Nat) (ts sd sn R : Nat) (w : Win) (g : Nat)
    (hn : 2 ≤ durs.length) (hR : 0 < R) (hts : 0 < ts) (hsd : 0 < sd)
    (hw : w.tsbd * 1000000 ≤ w.E) (hconv : ConvSpec conv ts)
    (hadv : AdvMicro durs R ts) (hlee : LeewayTime durs ts w) (hhalf : HalfSeg durs sd)
    (hg : index durs R (tcFirst w ts) ≤ g)
    (hend : ((startG durs R g : Int) + durG' durs R g) * 1000000 ≤ (w.E : Int) * ts) :
    liveIndex conv durs ts sd sn R w (.time (startG durs R g)) =
      .ok (getSegmentIndex durs R (startG durs R g)).1 (getSegmentIndex durs R (startG durs R g)).2.2
        (((startG durs R g / sd : Nat) : Int) + sn) := by
  have hn0 : 0 < durs.length := by omega
  have hpos := advMicro_pos hts hadv
  -- the search for the first listed position stopped within half a segment of tc(firstAvailableTime),
  -- and `g` does not start before it
  have hB : tcFirst w ts ≤ startG durs R g + maxDur durs / 2 := by
    have h1 := (index_spec durs R (tcFirst w ts) hR hn0).2.2.1
    have h2 := (hpos.strictMono hn0).monotone hg
    have h3 := durAt_le_maxDur durs (index durs R (tcFirst w ts) % durs.length)
    unfold before durG at h1
    omega
  have hF := tcFirst_eq w ts hw
  have hE := lt_tdToTc_succ_mul w.E ts
  have hd := hadv (g % durs.length) (Nat.mod_lt _ hn0)
  rw [advDur_eq_durG'] at hd
  unfold LeewayTime at hlee
  unfold HalfSeg at hhalf
  rw [liveIndex_time]
  refine if_neg (live_gates_pass rfl hconv hts hn ?_ ?_ (Nat.div_le_div_right (le_tdToTc ?_))
    (div_add_le _ _ _ _ hsd ?_))
  · -- not older than firstAvailableTime − leeway
    unfold Win.F
    linarith only [hF, hE, hB, hlee]
  · -- not in the future
    linarith only [hend, hd]
  · -- `number ≤ last`: the entry has started
    have := advPositive_durG' hn0 hpos g
    zify
    linarith only [hend, this]
  · -- `first ≤ number`: it starts at most `⌊d_max/2⌋ ≤ sd` before the window
    omega

/-- **C01 for `$Time$` (SegmentTimeline) addressing, as the manifest states it.**  Every
entry `(t, d)` of the DASH expansion of the timeline the manifest carries whose end is
not later than now (`(t+d)/ts ≤ E`) is answered 200 when `$Time$ = t` is requested at
the same instant.  Under `StartsInsideLoop`/`PositiveDurs` (C02) the segment served is
exactly the advertised one. -/
theorem C01_time_partial (conv : Nat → Int) (durs : List Nat) (ts sd sn R : Nat) (w : Win) (fuel : Nat)
    (hn : 2 ≤ durs.length) (hR : 0 < R) (hts : 0 < ts) (hsd : 0 < sd)
    (hw : w.tsbd * 1000000 ≤ w.E) (hconv : ConvSpec conv ts)
    (hadv : AdvMicro durs R ts) (hlee : LeewayTime durs ts w) (hhalf : HalfSeg durs sd) :
    let l := expand (timelineLive durs R ts (tcFirst w ts) w.tsbd fuel)
    ∀ i (h : i < l.length), ((l[i]).1 + (l[i]).2) * 1000000 ≤ (w.E : Int) * ts →
      ∃ m o k, liveIndex conv durs ts sd sn R w (.time (l[i]).1.toNat) = .ok m o k := by
  have hn0 : 0 < durs.length := by omega
  simp only [timelineLive_get durs R ts _ _ fuel hn0 (advMicro_pos hts hadv), Int.toNat_natCast]
  exact fun i _ hend => ⟨_, _, _, C01_time_core conv durs ts sd sn R w _ hn hR hts hsd hw hconv hadv hlee
    hhalf (Nat.le_add_right _ _) hend⟩

/-- **C01 for `$Number$` addressing.**  Every number `N = sn + k` whose ISO/IEC 23009-1
§5.3.9.5.3 availability window – computed only from the manifest's own
availabilityStartTime (`E = now − AST`), timeShiftBufferDepth, startNumber, duration `sd`
and timescale – contains now is answered 200:
`(k+1)·sd/ts ≤ E ≤ (k+2)·sd/ts + tsbd`. -/
theorem C01_number_partial (conv : Nat → Int) (durs : List Nat) (ts sd sn R : Nat) (w : Win) (k : Nat)
    (hn : 2 ≤ durs.length) (hts : 0 < ts) (hsd : 0 < sd)
    (_hw : w.tsbd * 1000000 ≤ w.E) (hconv : ConvSpec conv ts)
    (hlee : LeewayNumber ts sd w) (hmicro : ts ≤ sd * 1000000)
    (hstart : (k + 1) * sd * 1000000 ≤ w.E * ts)
    (hendw : w.E * ts ≤ (k + 2) * sd * 1000000 + w.tsbd * 1000000 * ts) :
    ∃ m o, liveIndex conv durs ts sd sn R w (.number ((sn : Int) + k)) = .ok m o ((sn : Int) + k) := by
  have htc : ((sn : Int) + k - sn) * sd = ((k * sd : Nat) : Int) := by
    rw [add_sub_cancel_left, Int.natCast_mul]
  have hE1 := tdToTc_mul_le w.E ts
  unfold LeewayNumber at hlee
  rw [liveIndex_number, htc, Int.toNat_natCast]
  -- the premises of `live_gates_pass`, in the order of `C01_time_core`
  refine ⟨_, _, if_neg (not_or.mpr ⟨Int.not_lt.mpr (Int.natCast_nonneg _),
    live_gates_pass (Int.add_comm _ _) hconv hts hn ?_ ?_ ((Nat.le_div_iff_mul_le hsd).mpr ?_) ?_⟩)⟩
  · unfold Win.F
    push_cast
    linarith only [hendw, hlee]
  · push_cast
    linarith only [hstart, hmicro]
  · exact Nat.le_trans (Nat.mul_le_mul_right sd (Nat.le_succ k)) (le_tdToTc hstart)
  · have h : tdToTc w.E ts ≤ ts * w.tsbd + (k + 2) * sd :=
      Nat.le_of_mul_le_mul_right (by linarith only [hE1, hendw]) (by omega : 0 < 1000000)
    have := Nat.div_le_div_right (c := sd) h
    rw [Nat.add_mul_div_right _ _ hsd] at this
    omega

/-- default of the `leeway` option in the registry table regenerated every run (`Gen/Options.lean`) -/
def defaultLeewayText : Option String :=
  (DashLive.Gen.Options.table.find? (fun r => r.cgi == "leeway")).map (·.dflt)

/-- the default in seconds when the registry's text is `"16"`, the one value the theorem below is about -/
def defaultLeewaySeconds : Option Nat :=
  defaultLeewayText.bind fun t => if t == "16" then some 16 else none

/-- obligation on the generated table: the default leeway is 16 s -/
theorem default_leeway_is_16 : defaultLeewaySeconds = some 16 := by decide +kernel

/-- **with the default options** every track whose `segment_duration` is below 8 s (timescale
up to 2 MHz) satisfies the `$Number$` leeway hypothesis, and every track whose longest
segment is below 30 s the `$Time$` one – so `C01_number_partial` / `C01_time_partial`
apply to them without any option being given.  Tracks with longer segments (the 10 s text
track of the upstream fixture) fall under finding D9. -/
theorem default_leeway_suffices (ts sd E tsbd L : Nat) (durs : List Nat)
    (hL : defaultLeewaySeconds = some L) (hts : 0 < ts) (hts2 : ts ≤ 2000000) :
    (sd < 8 * ts → LeewayNumber ts sd ⟨E, tsbd, L * 1000000⟩) ∧
    (maxDur durs < 30 * ts → LeewayTime durs ts ⟨E, tsbd, L * 1000000⟩) := by
  rw [default_leeway_is_16] at hL
  obtain rfl : 16 = L := Option.some.inj hL
  unfold LeewayNumber LeewayTime
  exact ⟨fun h => by simp only; omega, fun h => by simp only; omega⟩

/-- decision sequence of `LiveMedia.get` (media_requests.py:392-432) for an init request -/
structure GetEnv where
  optionsOk : Bool          -- calculate_options did not raise ValueError
  hasTimingRef : Bool       -- stream.timing_reference is set
  repEncrypted : Bool
  drmSelected : Bool        -- options.encrypted
  contentTypeOk : Bool      -- audio | video | text
  indexed : Bool            -- media.representation is not None
  syntheticError : Option Nat   -- a requested error for segment number 0

def initStatus (e : GetEnv) : Nat :=
  if !e.optionsOk then 400
  else if !e.hasTimingRef then 404
  else if e.repEncrypted && !e.drmSelected then 404
  else if !e.contentTypeOk then 404
  else if !e.indexed then 404
  else match e.syntheticError with
    | some c => c
    | none => 200

/-- **C01 (init)**: for a listed Representation (indexed media of a known content type, a
configured timing reference, DRM selected when the track is encrypted) and a manifest
request that was itself accepted (options parse, no error injection for the init
segment), the init request is answered 200 – whatever the clock, window or leeway:
the decision does not mention them. -/
theorem C01_init (e : GetEnv) (h1 : e.optionsOk) (h2 : e.hasTimingRef) (h3 : e.contentTypeOk)
    (h4 : e.indexed) (h5 : e.repEncrypted → e.drmSelected) (h6 : e.syntheticError = none) :
    initStatus e = 200 := by
  unfold initStatus
  cases hre : e.repEncrypted <;> simp_all

/-- bbb video: 240 Hz, 10 × 4 s, reference itself, one hour after start, 60 s buffer,
default leeway 16 s: all hypotheses hold -/
example : AdvMicro [960,960,960,960,960,960,960,960,960,960] 9600 240 ∧
    LeewayTime [960,960,960,960,960,960,960,960,960,960] 240 ⟨3600000000, 60, 16000000⟩ ∧
    HalfSeg [960,960,960,960,960,960,960,960,960,960] 960 ∧
    LeewayNumber 240 960 ⟨3600000000, 60, 16000000⟩ := by
  refine ⟨?_, by unfold LeewayTime; decide, by unfold HalfSeg; decide, by unfold LeewayNumber; decide⟩
  unfold AdvMicro; decide

/-- D9: with `leeway = 0` the first timeline entry starts (up to half a segment) before
`firstAvailableTime` and is refused: window E = 3602 s, depth 60 s, exact conversion -/
example : liveIndex (fun tc => (tc : Int) * 1000000 / 240) [960,960,960,960,960,960,960,960,960,960]
    240 960 1 9600 ⟨3602000000, 60, 0⟩
    (.time (getSegmentIndex [960,960,960,960,960,960,960,960,960,960] 9600
      (tcFirst ⟨3602000000, 60, 0⟩ 240)).2.1) = .notFound := by decide

end DashLive.Segments
