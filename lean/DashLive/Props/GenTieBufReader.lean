import DashLive.Gen.BufSeek
import DashLive.Model.BufReader
/-!
# Translated `BufferedReader.seek` = C20's model

`Gen/BufSeek.lean` is regenerated from /repo's source text on every run
(`harness/gen_bufreader.py`).  `tie_seek` proves the translated function equal to
`BufReader.seek` (new position = returned value) for the three `whence` constants; for any other
`whence` value the code leaves the position where it is and only clamps it (`tie_seek_other`).
-/
namespace DashLive.GenTie
open DashLive DashLive.BufReader

def whenceCode : Whence → Int
  | .set => 0
  | .cur => 1
  | .end_ => 2

theorem tie_seek (c : Cfg) (s : St) (off : Int) (w : Whence) :
    Gen.BufSeek.seek s.pos c.size off (whenceCode w) = ((seek c s off w).2 : Int)
    ∧ (seek c s off w).1.pos = (seek c s off w).2 := by
  -- the clamped position is non-negative: `toNat` loses nothing
  refine ⟨Eq.trans ?_ (Int.toNat_of_nonneg
    (Int.le_min.mpr ⟨Int.le_max_left _ _, Int.natCast_nonneg _⟩)).symm, rfl⟩
  cases w <;> rfl

theorem tie_seek_other (pos size off whence : Int) (h0 : whence ≠ 0) (h1 : whence ≠ 1) (h2 : whence ≠ 2) :
    Gen.BufSeek.seek pos size off whence = min (max 0 pos) size := by
  unfold Gen.BufSeek.seek
  simp [h0, h1, h2]

end DashLive.GenTie
