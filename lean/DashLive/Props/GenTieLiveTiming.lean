import DashLive.Gen.LiveTiming
import DashLive.Lemmas.LiveTiming
/-!
# Translated `DashTiming.__init__` + `calculate_live_params` = C08's model

`Gen/LiveTiming.lean` is regenerated from the source text of dashlive/mpeg/dash/timing.py on every
run (`harness/gen_livetiming.py`: the statement list cut into `init_*`, `resolve_<kind>`, `liveTail`,
composed as `liveParams_<kind>`).  This file proves each piece equal to the corresponding step of the
hand-written model `LiveTiming.calculateLiveParams` and, composed, the whole translated function equal
to the model (`tie_liveTiming`) – for every clock `0 ≤ now` (only `today` needs the bound: the model's
day number is a `Nat`), every start value, every `depth`/`mup`/`leeway` (None or any integer) and
every timing reference.

Parameters of the translation and their instances here:
* `floorMonth`, `floorYear` (`now.replace(day=1, …)`, `now.replace(month=1, day=1, …)`) :=
  `monthStart`, `yearStart` of the model, i.e. the calendar walk (tied to Python's calendar by the
  `calendar` correspondence channel);
* `pyRound n d` (`round(n / d)`) := round-half-to-even of the model (`roundHalfEven`), validated by the
  `mupdefault` channel.
Not part of the translated record: the UTC offset of an explicit start (`utcOffsetMin`, only printing).
-/
namespace DashLive.GenTie.LiveTiming
open DashLive DashLive.LiveTiming DashLive.Calendar
open DashLive.Gen.LiveTiming (DashTiming liveTail)

def pyRound (n d : Int) : Int := roundHalfEven n.toNat d.toNat

def toGen (t : LiveTiming) : DashTiming :=
  { timeShiftBufferDepth := t.timeShiftBufferDepth, availabilityStartTime := t.availabilityStartTime,
    elapsedTime := t.elapsedTime, minimumUpdatePeriod := t.minimumUpdatePeriod,
    firstAvailableTime := t.firstAvailableTime, leeway := t.leeway, publishTime := t.publishTime }

def modelTail (now ast0 depth0 : Int) (ref : Ref) (mup leeway : Option Int) : DashTiming :=
  { timeShiftBufferDepth := clampDepth (backOff ast0 now).2 depth0
    availabilityStartTime := (backOff ast0 now).1
    elapsedTime := (backOff ast0 now).2
    minimumUpdatePeriod := effectiveMup true ref mup
    firstAvailableTime := (backOff ast0 now).2 - clampDepth (backOff ast0 now).2 depth0 * usPerSec
    leeway := match leeway with
      | none => 0
      | some l => l * usPerSec
    publishTime := publish (floorSec now) (backOff ast0 now).1 (backOff ast0 now).2 (effectiveMup true ref mup) }

theorem defaultMup_eq (ref : Ref) :
    max (1 : Int) (pyRound (2 * (ref.segmentDuration : Int)) ref.timescale) = defaultMup true ref := by
  have : (2 * (ref.segmentDuration : Int)).toNat = 2 * ref.segmentDuration := Int.toNat_natCast _
  simp only [defaultMup, pyRound, this, Int.toNat_natCast, if_true]

theorem tie_tail (now ast0 depth0 : Int) (ref : Ref) (mup leeway : Option Int) :
    liveTail pyRound now (floorSec now) 0 depth0 ast0 ref.segmentDuration ref.timescale mup leeway =
      modelTail now ast0 depth0 ref mup leeway := by
  cases mup <;> cases leeway <;>
    simp only [liveTail, modelTail, backOff, apply_ite Prod.fst, apply_ite Prod.snd, dayUs, clampDepth,
      effectiveMup, publish, floorSec, usPerSec, Int.zero_mul, Int.fdiv_one]
  case none.none | none.some =>
    -- the default period is positive, so `//` is the model's floor division
    have hd := defaultMup_pos ref
    have hq : 0 ≤ defaultMup true ref * 1000000 := by omega
    simp only [defaultMup_eq, Int.fdiv_eq_ediv_of_nonneg _ hq]
  case some.none mup | some.some mup _ =>
    by_cases hm : mup ≤ 0
    · -- updates disabled: `publishTime` stays `publishTime0`
      simp only [hm, if_true, ne_eq, not_true_eq_false, if_false]
    · have hmq : 0 ≤ mup * 1000000 := by omega
      simp only [hm, if_false, ne_eq, reduceCtorEq, not_false_eq_true, if_true, Option.getD_some,
        Int.fdiv_eq_ediv_of_nonneg _ hmq]

theorem tie_init_publishTime (now : Int) : Gen.LiveTiming.init_publishTime now = floorSec now := rfl
theorem tie_init_leeway (now : Int) : Gen.LiveTiming.init_leeway now = 0 := rfl
theorem tie_init_one_day (now : Int) : Gen.LiveTiming.init_one_day now = dayUs := rfl

theorem tie_init_depth (now : Int) (depth : Option Int) :
    Gen.LiveTiming.init_timeShiftBufferDepth now depth = initialDepth true depth := by
  rcases depth with _ | depth <;> simp [Gen.LiveTiming.init_timeShiftBufferDepth, initialDepth, defaultDepth]

theorem tie_resolve_epoch (now : Int) :
    Gen.LiveTiming.resolve_epoch monthStart yearStart now (floorSec now) dayUs
      = (resolveStart true now (floorSec now) .epoch).1 := rfl

theorem tie_resolve_now (now : Int) :
    Gen.LiveTiming.resolve_now monthStart yearStart now (floorSec now) dayUs
      = (resolveStart true now (floorSec now) .now).1 := rfl

theorem tie_resolve_explicit (now t off : Int) :
    Gen.LiveTiming.resolve_explicit monthStart yearStart now (floorSec now) dayUs t
      = (resolveStart true now (floorSec now) (.explicit t off)).1 := rfl

theorem tie_resolve_month (now : Int) :
    Gen.LiveTiming.resolve_month monthStart yearStart now (floorSec now) dayUs
      = (resolveStart true now (floorSec now) .month).1 := by
  rw [resolveStart, apply_ite Prod.fst]; rfl

theorem tie_resolve_year (now : Int) :
    Gen.LiveTiming.resolve_year monthStart yearStart now (floorSec now) dayUs
      = (resolveStart true now (floorSec now) .year).1 := by
  rw [resolveStart, apply_ite Prod.fst]; rfl

/-- the translated code reads hour and minute off `publishTime % one_day`, the model off
`t - dayStart t` -/
theorem tie_resolve_today (now : Int) (h0 : 0 ≤ now) :
    Gen.LiveTiming.resolve_today monthStart yearStart now (floorSec now) dayUs
      = (resolveStart true now (floorSec now) .today).1 := by
  have hp : 0 ≤ floorSec now := le_floorSec (a := 0) rfl h0
  rw [resolveStart, apply_ite Prod.fst, hourOf_eq hp, minuteOf_eq hp, dayStart_eq h0]
  simp only [Gen.LiveTiming.resolve_today,
    Int.fdiv_eq_ediv_of_nonneg _ (show (0 : Int) ≤ 3600000000 by decide),
    Int.fdiv_eq_ediv_of_nonneg _ (show (0 : Int) ≤ 60000000 by decide)]
  rfl

/-- the translated constructor applied to the model's option record -/
def genLive (now : Int) (ref : Ref) (o : Options) : DashTiming :=
  match o.start with
  | .epoch => Gen.LiveTiming.liveParams_epoch monthStart yearStart pyRound now
      ref.segmentDuration ref.timescale o.depth o.mup o.leeway
  | .today => Gen.LiveTiming.liveParams_today monthStart yearStart pyRound now
      ref.segmentDuration ref.timescale o.depth o.mup o.leeway
  | .month => Gen.LiveTiming.liveParams_month monthStart yearStart pyRound now
      ref.segmentDuration ref.timescale o.depth o.mup o.leeway
  | .year => Gen.LiveTiming.liveParams_year monthStart yearStart pyRound now
      ref.segmentDuration ref.timescale o.depth o.mup o.leeway
  | .now => Gen.LiveTiming.liveParams_now monthStart yearStart pyRound now
      ref.segmentDuration ref.timescale o.depth o.mup o.leeway
  | .explicit t _ => Gen.LiveTiming.liveParams_explicit monthStart yearStart pyRound now t
      ref.segmentDuration ref.timescale o.depth o.mup o.leeway

/-- **the function translated from the source text is the model the C08 theorems are about** -/
theorem tie_liveTiming (now : Int) (ref : Ref) (o : Options) (h0 : 0 ≤ now) :
    genLive now ref o = toGen (calculateLiveParams now ref o) := by
  obtain ⟨start, depth, mup, leeway⟩ := o
  show _ = modelTail now (resolved now start) (initialDepth true depth) ref mup leeway
  cases start with
  | explicit t off =>
    simp only [genLive, Gen.LiveTiming.liveParams_explicit, tie_init_publishTime, tie_init_leeway,
      tie_init_one_day, tie_init_depth, tie_resolve_explicit now t off, tie_tail, resolved]
  | _ =>
    simp only [genLive, Gen.LiveTiming.liveParams_epoch, Gen.LiveTiming.liveParams_today,
      Gen.LiveTiming.liveParams_month, Gen.LiveTiming.liveParams_year, Gen.LiveTiming.liveParams_now,
      tie_init_publishTime, tie_init_leeway, tie_init_one_day, tie_init_depth, tie_resolve_epoch,
      tie_resolve_today _ h0, tie_resolve_month, tie_resolve_year, tie_resolve_now, tie_tail, resolved]

theorem tie_liveTiming_fields (now : Int) (ref : Ref) (o : Options) (h0 : 0 ≤ now) :
    (genLive now ref o).availabilityStartTime = (calculateLiveParams now ref o).availabilityStartTime ∧
    (genLive now ref o).elapsedTime = (calculateLiveParams now ref o).elapsedTime ∧
    (genLive now ref o).timeShiftBufferDepth = (calculateLiveParams now ref o).timeShiftBufferDepth ∧
    (genLive now ref o).firstAvailableTime = (calculateLiveParams now ref o).firstAvailableTime ∧
    (genLive now ref o).publishTime = (calculateLiveParams now ref o).publishTime ∧
    (genLive now ref o).minimumUpdatePeriod = (calculateLiveParams now ref o).minimumUpdatePeriod ∧
    (genLive now ref o).leeway = (calculateLiveParams now ref o).leeway := by
  rw [tie_liveTiming now ref o h0]
  exact ⟨rfl, rfl, rfl, rfl, rfl, rfl, rfl⟩

end DashLive.GenTie.LiveTiming
