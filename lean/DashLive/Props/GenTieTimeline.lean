import DashLive.Gen.Timeline
import DashLive.Props.GenTie
/-!
# Translated `generateSegmentTimeline` = hand-written model

`Gen/Timeline.lean` is regenerated from /repo's source text on every run
(`harness/gen_timeline.py` + `harness/pytolean.py`: Python `ast` → Lean, records field by
field, lists, `if/elif`, the `while` loop as a fuelled recursion, the local closure inlined,
with an aliasing check for appended objects).  The theorems below prove the translated loop
equal to `Segments.tlLoop`, and the translated function equal to `Segments.timelineVod` /
`Segments.timelineLive` – the definitions every timeline theorem of C02, C06, C09 (and C01's
`C01_time_partial`) is about.  An edit of the loop therefore is either re-proved equal
(harmless rewrite) or stops this file from building (broken obligation → failing-input search).
-/
open DashLive DashLive.Segments
namespace DashLive.GenTie
open Gen.Timeline

/-- a generated `<S>` element as the model's `SNode` (the model does not carry `mod_segment`) -/
def conv (e : SegmentTimelineElement) : SNode := { start := e.start, dur := e.duration, count := e.count.toNat }

/-- what `generateSegmentTimeline` does after its loop: `output_s_node(s_node); return rv` -/
def finishG (st : (Option Int) × (List SegmentTimelineElement) × (Option Int) × Int × Int × Int × Int) : List SNode :=
  ((if st.2.2.1 ≠ none then st.2.1 ++ [{ duration := st.2.2.1, count := st.2.2.2.1, start := st.1, mod_segment := st.2.2.2.2.1 }]
    else st.2.1)).map conv

/-- `output_s_node` on the translated state is the model's `outputNode` on the converted state -/
theorem finishG_eq (cs cd : Option Int) (cc : Nat) (mm x y : Int) (rv : List SegmentTimelineElement) :
    finishG (cs, rv, cd, (cc : Int), mm, x, y)
      = outputNode (rv.map conv) { start := cs, dur := cd, count := cc } := by
  unfold finishG outputNode
  cases cd <;> simp [conv]

theorem tie_tlLoop (durs : List Nat) (drift segStart end_ : Int) :
    ∀ (fuel : Nat) (dur : Int) (m : Nat) (cs cd : Option Int) (cc : Nat) (acc : List SNode)
      (rv : List SegmentTimelineElement) (mm : Int),
      rv.map conv = acc →
      finishG (generateSegmentTimeline_while1 (segDurOf durs) (drift := drift) (end_ := end_)
          (seg_start_time := segStart) (num_media_segments := durs.length) fuel
          cs rv cd (cc : Int) mm dur ((m : Int) + 1))
        = tlLoop durs drift segStart end_ fuel dur m { start := cs, dur := cd, count := cc } acc := by
  intro fuel
  induction fuel with
  | zero =>
    intro dur m cs cd cc acc rv mm h
    subst h
    exact finishG_eq cs cd cc mm _ _ rv
  | succ f ih =>
    intro dur m cs cd cc acc rv mm h
    subst h
    unfold generateSegmentTimeline_while1 tlLoop
    by_cases hlt : dur < end_
    · rw [if_pos hlt, if_pos hlt, segDurOf_succ]
      dsimp only
      -- the advertised duration and the next `mod_segment`, as the model writes them
      have hd : (if (m : Int) + 1 = (durs.length : Int) then ((durAt durs m : Nat) : Int) + drift
            else ((durAt durs m : Nat) : Int))
          = ((durAt durs m : Nat) : Int) + (if m + 1 = durs.length then drift else 0) := by
        split <;> split <;> omega
      have hm' : (if (m : Int) + 1 + 1 > (durs.length : Int) then (1 : Int) else (m : Int) + 1 + 1)
          = (((if m + 1 ≥ durs.length then 0 else m + 1 : Nat)) : Int) + 1 := by
        split <;> split <;> omega
      rw [hd, hm']
      generalize ((durAt durs m : Nat) : Int) + (if m + 1 = durs.length then drift else 0) = d
      generalize (if m + 1 ≥ durs.length then 0 else m + 1) = m'
      -- first iteration (sets `t`) / new duration (the node is output: `finishG_eq`) / same duration
      by_cases h0 : dur = 0
      · simp only [h0, if_true]
        have key := ih (0 + d) m' (some segStart) (some d) (cc + 1) _ rv mm rfl
        rwa [Int.natCast_add] at key
      · simp only [h0, if_false]
        by_cases hne : some d ≠ cd
        · simp only [if_pos hne]
          have key := ih (dur + d) m' none (some d) (0 + 1) _ _ ((m : Int) + 1)
            (finishG_eq cs cd cc mm 0 0 rv)
          rwa [Int.natCast_add] at key
        · simp only [if_neg hne]
          have key := ih (dur + d) m' cs (some d) (cc + 1) _ rv mm rfl
          rwa [Int.natCast_add] at key
    · rw [if_neg hlt, if_neg hlt]
      exact finishG_eq cs cd cc mm _ _ rv

theorem tie_timelineTail (durs : List Nat) (drift segStart end_ : Int) (m fuel : Nat) :
    (generateSegmentTimeline_tail (segDurOf durs) (seg_start_time := segStart) (mod_segment := (m : Int) + 1)
        (drift := drift) (end_ := end_) (num_media_segments := durs.length) fuel).map conv
      = tlLoop durs drift segStart end_ fuel 0 m SNode.fresh [] := by
  exact_mod_cast tie_tlLoop durs drift segStart end_ fuel 0 m none none 0 [] [] ((m : Int) + 1) rfl

/-- `generateSegmentTimeline` for a static manifest = `Segments.timelineVod` -/
theorem tie_timelineVod (durs : List Nat) (fuel : Nat) :
    (generateSegmentTimelineVod (segDurOf durs) (mediaDuration := ((durs.sum : Nat) : Int))
        (num_media_segments := durs.length) fuel).map conv
      = timelineVod durs fuel := by
  unfold generateSegmentTimelineVod timelineVod
  exact tie_timelineTail durs 0 0 _ 0 fuel

/-- `generateSegmentTimeline` for a live manifest: the statements of the `mode == 'live'` branch
(gen_timeline.py refuses a source whose text differs from its `LIVE_SHAPE`) composed from the
translated `get_segment_index` (`calculate_segment_from_timecode` only reorders its result) and the
translated tail = `Segments.timelineLive` -/
theorem tie_timelineLive (durs : List Nat) (refDur refTs ts tcF tsbd fuel : Nat) :
    let g := Gen.Arith.getSegmentIndex (segDurOf durs) refDur refTs ts durs.length tcF (durs.length + 1)
    (generateSegmentTimeline_tail (segDurOf durs) (seg_start_time := g.2.1) (mod_segment := g.1)
        (drift := Gen.Arith.mediaDurationUsingTimescale refDur refTs ts - ((durs.sum : Nat) : Int))
        (end_ := (tsbd : Int) * (ts : Int)) (num_media_segments := durs.length) fuel).map conv
      = timelineLive durs (refDuration refDur refTs ts) ts tcF tsbd fuel := by
  intro g
  have hg : g = _ := tie_getSegmentIndex durs refDur refTs ts tcF
  rw [hg, tie_refDuration]
  -- the model's `mod_segment` is `m + 1` by definition, the form in which the tail is tied
  unfold timelineLive Segments.getSegmentIndex
  dsimp only
  rw [Nat.add_sub_cancel, Int.natCast_add, Int.natCast_one, ← Int.natCast_mul]
  exact tie_timelineTail durs _ _ _ _ fuel

end DashLive.GenTie
