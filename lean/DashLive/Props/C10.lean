import DashLive.Lemmas.InitRewrite
/-!
# C10 – init segments carry exactly the requested protection data, nothing else changes

The list of appended boxes is read through `initPsshs_eq_filterMap` (one `filterMap` over the systems),
the edit of the tree through `generateInit_split`, what a manifest hands on through `selection_print_parse`.

Quantification: every stored init segment as a box tree (any boxes before and after
the first `moov`, any children of `moov` and of `mvex`, opaque payloads), every DRM
selection (any list of (system, locations), duplicates allowed), every key-id list,
every PRO byte string, live and vod.  Size hypotheses (`< 2³²`) are the 32-bit box
size limit of ISO-BMFF and appear only where a size is read back.
-/
namespace DashLive.C10
open DashLive.InitRewrite DashLive.PlayReady

/-- a key id used in examples -/
def exKidPlaceholder : Bytes := List.replicate 16 7

/-- the property's reading of a selection: do the locations requested for the system include `moov`
(the last entry for that system counts, as in `DrmContext.__init__`) -/
def wantsMoov (sel : Selection) (s : Sys) : Bool :=
  match lookupLast sel s with
  | some locs => locs.contains Loc.moov
  | none => false

theorem initPsshs_eq_filterMap (version : Option Nat) (aes : Bool) (sel : Selection)
    (kids : List Bytes) (pro : Bytes) :
    initPsshs true version aes sel kids pro
      = Sys.all.filterMap fun s => if wantsMoov sel s then psshFor kids pro s else none := by
  simp only [initPsshs, contexts, List.filterMap_filterMap, Bool.not_true, Bool.false_eq_true, if_false]
  congr 1
  funext s
  unfold wantsMoov
  cases lookupLast sel s with
  | none => rfl
  | some locs =>
    simp only [Option.map_some, Option.bind_some, hooksOf_moov]
    -- the Marlin context, which has no hook, is absorbed by `psshFor .marlin = none`
    cases s <;> simp [psshFor]

/-- **exactly one pssh per selected system that defines init-segment data and whose
locations include `moov`** – ClearKey first, then PlayReady (sorted names); Marlin never;
nothing at all for a clear track.  Holds for every `playready__version`. -/
theorem initPsshs_spec (encrypted : Bool) (version : Option Nat) (aes : Bool) (sel : Selection)
    (kids : List Bytes) (pro : Bytes) :
    initPsshs encrypted version aes sel kids pro =
      if !encrypted then [] else
        (if wantsMoov sel .clearkey then [⟨1, ClearKey.psshSystemId, kids, []⟩] else [])
        ++ (if wantsMoov sel .playready then
              [if kids.length < 2 then ⟨0, playreadySystemId, [], pro⟩
               else ⟨1, playreadySystemId, kids, pro⟩]
            else []) := by
  cases encrypted
  · rfl
  · rw [initPsshs_eq_filterMap]
    simp only [Sys.all, List.filterMap_cons, List.filterMap_nil, psshFor_playready]
    cases wantsMoov sel .clearkey <;> cases wantsMoov sel .playready <;> simp [psshFor]

theorem initPsshs_clear (version : Option Nat) (aes : Bool) (sel : Selection)
    (kids : List Bytes) (pro : Bytes) : initPsshs false version aes sel kids pro = [] := rfl

theorem lookupLast_mem {sel : Selection} {s : Sys} {locs : List Loc}
    (h : lookupLast sel s = some locs) : (s, locs) ∈ sel := by
  obtain ⟨⟨s', _⟩, hf, rfl⟩ := Option.map_eq_some_iff.mp h
  obtain rfl : s' = s := by simpa using List.find?_some hf
  exact List.mem_reverse.mp (List.mem_of_find?_eq_some hf)

/-- a selection none of whose entries includes `moov` yields no pssh -/
theorem initPsshs_no_moov (encrypted : Bool) (version : Option Nat) (aes : Bool) (sel : Selection)
    (kids : List Bytes) (pro : Bytes) (h : ∀ e ∈ sel, e.2.contains Loc.moov = false) :
    initPsshs encrypted version aes sel kids pro = [] := by
  have hw : ∀ s, wantsMoov sel s = false := by
    intro s
    unfold wantsMoov
    cases hl : lookupLast sel s with
    | none => rfl
    | some locs => exact h (s, locs) (lookupLast_mem hl)
  rw [initPsshs_spec]
  simp [hw]

/-- a selection of Marlin only yields no pssh, whatever its locations -/
theorem initPsshs_marlin_only (version : Option Nat) (aes : Bool) (locs : List Loc)
    (kids : List Bytes) (pro : Bytes) :
    initPsshs true version aes [(.marlin, locs)] kids pro = [] := by
  rw [initPsshs_spec]
  simp [wantsMoov, lookupLast]

/-- **pssh framing**: every box `generate_init_segment` appends decodes (independent reader
of ISO/IEC 23001-7 §8.1) to exactly its system id, key ids and payload; and the version is
0 iff the box is PlayReady's for fewer than two keys. -/
theorem pssh_framing (kids : List Bytes) (pro : Bytes) (s : Sys) (p : PsshSpec)
    (hp : psshFor kids pro s = some p) (hk : ∀ k ∈ kids, k.length = 16)
    (hsz : p.bytes.length < 4294967296) :
    decodePssh p.bytes = some ⟨p.version, p.sys, p.kids, p.data⟩ ∧
    (p.version = 0 ↔ s = .playready ∧ kids.length < 2) ∧
    (s = .clearkey → p = ⟨1, ClearKey.psshSystemId, kids, []⟩) ∧
    (s = .playready → p.sys = playreadySystemId ∧ p.data = pro ∧
      p.kids = if kids.length < 2 then [] else kids) := by
  cases s with
  | marlin => cases hp
  | clearkey =>
    obtain rfl := Option.some.inj hp
    exact ⟨decodePssh_encodePssh 1 _ kids [] (by omega) (by omega) rfl hk hsz, by simp, by simp, by simp⟩
  | playready =>
    rw [psshFor_playready] at hp
    obtain rfl := Option.some.inj hp
    by_cases h2 : kids.length < 2 <;> simp only [h2, if_true, if_false] at hsz ⊢
    · exact ⟨decodePssh_encodePssh 0 _ [] pro (by omega) (fun _ => rfl) rfl nofun hsz,
        by simp, by simp, by simp⟩
    · exact ⟨decodePssh_encodePssh 1 _ kids pro (by omega) (by omega) rfl hk hsz,
        by simp, by simp, by simp⟩

/-- the leaf the model appends encodes to exactly the pssh box bytes -/
theorem pssh_box_bytes (p : PsshSpec) : p.box.encode = p.bytes := by
  simp only [PsshSpec.box, PsshSpec.bytes, Box.encode, encodePssh]

theorem encodeList_map_box (l : List PsshSpec) :
    encodeList (l.map PsshSpec.box) = (l.map PsshSpec.bytes).flatten := by
  induction l with
  | nil => rfl
  | cons p ps ih => rw [List.map_cons, encodeList, ih, pssh_box_bytes, List.map_cons, List.flatten_cons]

theorem wfList_map_box (isC : Bytes → Bool) (hpssh : isC psshType = false) (l : List PsshSpec)
    (hl : ∀ p ∈ l, p.bytes.length < 4294967296) : WfList isC (l.map PsshSpec.box) := by
  induction l with
  | nil => trivial
  | cons p ps ih =>
    have := hl p (List.mem_cons_self ..)
    simp only [PsshSpec.bytes, encodePssh, List.length_append, be32_length,
      show psshType.length = 4 from rfl] at this
    exact ⟨⟨rfl, hpssh, by omega⟩, ih fun q hq => hl q (List.mem_cons_of_mem _ hq)⟩

/-- the children of `moov` after the edit: `mvex` loses its first `mehd` when live -/
def moovChildren (cs : List Box) (live : Bool) : List Box :=
  if live then modifyFirst mvexType dropMehdFrom cs else cs

theorem generateInit_split {pre post cs extra : List Box} {live : Bool}
    (hpre : ∀ x ∈ pre, x.typ ≠ moovType) (hextra : ∀ x ∈ extra, x.typ ≠ mvexType) :
    generateInit (pre ++ .node moovType cs :: post) extra live
      = pre ++ .node moovType (moovChildren cs live ++ extra) :: post := by
  unfold generateInit
  rw [modifyFirst_split moovType _ pre post _ hpre rfl]
  cases live with
  | false => simp [rewriteMoov, appendChildren, moovChildren]
  | true =>
    simp only [rewriteMoov, appendChildren, if_true, dropMehd, moovChildren]
    rw [modifyFirst_append_right mvexType dropMehdFrom cs _ hextra]

/-- the response tree is the stored tree with exactly these edits:
the boxes before and after the first `moov` are untouched, `moov` keeps its children
(`mvex` without `mehd` when live) followed by the appended pssh boxes in order; on the
byte level the prefix and suffix are identical and `moov` is re-framed with the size of
what it now contains. -/
theorem init_diff_exact (pre post cs : List Box) (psshs : List PsshSpec) (live : Bool)
    (hpre : ∀ x ∈ pre, x.typ ≠ moovType) :
    generateInit (pre ++ .node moovType cs :: post) (psshs.map PsshSpec.box) live
      = pre ++ .node moovType (moovChildren cs live ++ psshs.map PsshSpec.box) :: post ∧
    initBytes (pre ++ .node moovType cs :: post) psshs live
      = encodeList pre
        ++ (be32 (8 + ((encodeList (moovChildren cs live)).length + (psshs.map PsshSpec.bytes).flatten.length))
            ++ moovType ++ (encodeList (moovChildren cs live) ++ (psshs.map PsshSpec.bytes).flatten))
        ++ encodeList post := by
  have hpssh : ∀ x ∈ psshs.map PsshSpec.box, x.typ ≠ mvexType := by
    intro x hx
    obtain ⟨p, _, rfl⟩ := List.mem_map.mp hx
    simp [PsshSpec.box, Box.typ, psshType, mvexType]
  refine ⟨generateInit_split hpre hpssh, ?_⟩
  rw [initBytes, generateInit_split hpre hpssh, encodeList_append]
  simp only [encodeList, Box.encode, encodeList_append, encodeList_map_box, List.length_append,
    List.append_assoc]

/-- the `mvex` edit spelled out: with `mvex` = the first such child of `moov` and `mehd` the
first such child of `mvex`, live mode removes exactly that box; every sibling is kept -/
theorem mvex_diff (c1 c2 m1 m2 : List Box) (mehd : Box)
    (hc1 : ∀ x ∈ c1, x.typ ≠ mvexType) (hm1 : ∀ x ∈ m1, x.typ ≠ mehdType)
    (hmehd : mehd.typ = mehdType) :
    moovChildren (c1 ++ .node mvexType (m1 ++ mehd :: m2) :: c2) true
      = c1 ++ .node mvexType (m1 ++ m2) :: c2 := by
  unfold moovChildren
  simp only [if_true]
  rw [modifyFirst_split mvexType _ c1 c2 _ hc1 rfl]
  simp only [dropMehdFrom]
  rw [removeFirst_split mehdType m1 m2 mehd hm1 hmehd]

/-- no `mvex`, or an `mvex` without `mehd`: live mode changes nothing -/
theorem mvex_no_mehd (cs : List Box)
    (h : ∀ x ∈ cs, x.typ = mvexType → ∀ ms, x = .node mvexType ms → ∀ y ∈ ms, y.typ ≠ mehdType) :
    moovChildren cs true = cs := by
  unfold moovChildren
  rw [if_pos rfl]
  rcases split_first mvexType cs with hn | ⟨pre, b, post, rfl, hpre, hb⟩
  · exact modifyFirst_none _ _ _ hn
  · rw [modifyFirst_split _ _ pre post b hpre hb]
    cases b with
    | leaf t p => rfl
    | node t ms =>
      obtain rfl : t = mvexType := hb
      rw [dropMehdFrom, removeFirst_none mehdType ms (h _ (by simp) rfl ms rfl)]

theorem moovChildren_vod (cs : List Box) : moovChildren cs false = cs := rfl

/-- a clear track, or a DRM selection none of whose entries includes `moov`, served in vod mode
is the stored tree, byte for byte; in live mode the only edit is the removal of `mvex/mehd`.
(Marlin alone *with* `moov` does not meet the hypothesis; `initPsshs_marlin_only` gives its empty
box list.) -/
theorem init_clear_identity (top : List Box) (encrypted : Bool) (version : Option Nat) (aes : Bool)
    (sel : Selection) (kids : List Bytes) (pro : Bytes)
    (h : encrypted = false ∨ ∀ e ∈ sel, e.2.contains Loc.moov = false) :
    initBytes top (initPsshs encrypted version aes sel kids pro) false = encodeList top ∧
    generateInit top ((initPsshs encrypted version aes sel kids pro).map PsshSpec.box) true
      = modifyFirst moovType dropMehd top := by
  have hnil : initPsshs encrypted version aes sel kids pro = [] := by
    rcases h with rfl | h
    · rfl
    · exact initPsshs_no_moov _ _ _ _ _ _ h
  have happ : ∀ b : Box, appendChildren [] b = b := by
    intro b; cases b <;> simp [appendChildren]
  rw [hnil]
  constructor
  · unfold initBytes generateInit
    rw [modifyFirst_id moovType _ top (fun b _ => by simp [rewriteMoov, happ])]
  · unfold generateInit
    have hf : rewriteMoov [] true = dropMehd := by
      funext b; simp [rewriteMoov, happ]
    simp only [List.map_nil, hf]

/-- whenever the stored init segment is a well-formed tree (4-byte
types, containers where the reader expects them, sizes below 2³²) and the response still
fits 32-bit sizes, an independent reader of ISO-BMFF box sequences parses the response
bytes back to exactly the edited tree: every size field, at every depth, equals the number
of bytes the box occupies, and nothing is left over. -/
theorem init_wellformed (isC : Bytes → Bool) (pre post cs : List Box) (psshs : List PsshSpec)
    (live : Bool) (hpre : ∀ x ∈ pre, x.typ ≠ moovType)
    (hpssh : isC psshType = false)
    (hwf : WfList isC (pre ++ .node moovType cs :: post))
    (hsz : (initBytes (pre ++ .node moovType cs :: post) psshs live).length < 4294967296)
    (hp : ∀ p ∈ psshs, p.bytes.length < 4294967296) (fuel : Nat)
    (hfuel : weightList (generateInit (pre ++ .node moovType cs :: post)
      (psshs.map PsshSpec.box) live) < fuel) :
    parseBoxes isC fuel (initBytes (pre ++ .node moovType cs :: post) psshs live)
      = some (generateInit (pre ++ .node moovType cs :: post) (psshs.map PsshSpec.box) live) := by
  obtain ⟨hgen, hbytes⟩ := init_diff_exact pre post cs psshs live hpre
  unfold initBytes
  apply parse_encodeList isC _ fuel _ hfuel
  rw [hgen]
  rw [wfList_append] at hwf ⊢
  obtain ⟨hwpre, hwrest⟩ := hwf
  simp only [WfList, Box.Wf] at hwrest ⊢
  obtain ⟨⟨ht, hc, _, hwcs⟩, hwpost⟩ := hwrest
  refine ⟨hwpre, ⟨ht, hc, ?_, ?_⟩, hwpost⟩
  · -- the new moov fits: it is a part of the response
    rw [hbytes] at hsz
    rw [encodeList_append, encodeList_map_box]
    simp only [List.length_append, be32_length] at hsz ⊢
    omega
  · refine (wfList_append ..).mpr ⟨?_, wfList_map_box isC hpssh psshs hp⟩
    unfold moovChildren
    cases live with
    | false => exact hwcs
    | true => exact wfList_modifyFirst isC _ _ cs (wf_dropMehdFrom isC) hwcs

theorem mem_normLocs (locs : List Loc) (l : Loc) : l ∈ normLocs locs ↔ l ∈ locs := by
  simp [normLocs, Loc.mem_all l]

theorem normLocs_full (locs : List Loc) (h : isFull locs = true) : normLocs locs = Loc.all :=
  List.filter_eq_self.mpr (List.all_eq_true.mp h)

theorem lookupLast_map (sel : Selection) (f : List Loc → List Loc) (s : Sys) :
    lookupLast (sel.map fun e => (e.1, f e.2)) s = (lookupLast sel s).map f := by
  unfold lookupLast
  rw [← List.map_reverse, List.find?_map, Option.map_map, Option.map_map]
  rfl

theorem lookupLast_eq_none {sel : Selection} {s : Sys} :
    lookupLast sel s = none ↔ ∀ e ∈ sel, e.1 ≠ s := by
  simp [lookupLast]

/-- what a manifest writes into its init / media URLs
(`_drm_selection_to_string`) is read back (`_drm_selection_from_string`) as a selection in
which every system has the entry that counted before, with the same locations in sorted
order – for every selection: any number of systems in any order, equal or differing location
sets, repeats. -/
theorem selection_print_parse (sel : Selection) (s : Sys) :
    lookupLast (readPrinted (printSelection sel)) s = (lookupLast sel s).map normLocs := by
  have hitem : ∀ e : Sys × List Loc,
      (if isFull e.2 then ((e.1, none) : Item) else (e.1, some (normLocs e.2)))
        = (e.1, if isFull e.2 then none else some (normLocs e.2)) := fun e => by split <;> rfl
  simp only [printSelection, hitem]
  split
  · -- `all`: every entry is a bare name, so its locations are full, and `s` has an entry
    rename_i hall
    simp only [Bool.and_eq_true, List.all_eq_true, List.any_eq_true, List.mem_map,
      forall_exists_index, and_imp, forall_apply_eq_imp_iff₂,
      beq_iff_eq] at hall
    obtain ⟨hbare, hnames⟩ := hall
    cases hl : lookupLast sel s with
    | none =>
      obtain ⟨_, ⟨e, he, rfl⟩, hes⟩ := hnames s (Sys.mem_all s)
      exact absurd hes (lookupLast_eq_none.mp hl e he)
    | some locs =>
      have hfull : isFull locs = true := by simpa using hbare _ (lookupLast_mem hl)
      rw [Option.map_some, normLocs_full locs hfull]
      cases s <;> rfl
  · -- item list: each entry goes through unchanged up to the order of its locations
    have hread : readPrinted (.items (sel.map fun e => (e.1, if isFull e.2 then none else some (normLocs e.2))))
        = sel.map fun e => (e.1, normLocs e.2) := by
      simp only [readPrinted, List.map_map]
      refine List.map_congr_left fun e _ => ?_
      show (e.1, (if isFull e.2 then none else some (normLocs e.2)).getD Loc.all) = _
      split
      next hf => rw [normLocs_full e.2 hf]; rfl
      next => rfl
    rw [hread, lookupLast_map]

theorem wantsMoov_handed_on (sel : Selection) (s : Sys) :
    wantsMoov (readPrinted (printSelection sel)) s = wantsMoov sel s := by
  unfold wantsMoov
  rw [selection_print_parse]
  cases lookupLast sel s with
  | none => rfl
  | some locs => exact Bool.eq_iff_iff.mpr (by simp [mem_normLocs])

/-- the init segment requested through the URL a manifest advertises (its
`drm` value is the serialised selection) gets the same protection boxes as one requested with
the selection the manifest itself was asked with. -/
theorem init_handed_on (encrypted : Bool) (version : Option Nat) (aes : Bool) (sel : Selection)
    (kids : List Bytes) (pro : Bytes) :
    initPsshs encrypted version aes (readPrinted (printSelection sel)) kids pro
      = initPsshs encrypted version aes sel kids pro := by
  cases encrypted
  · rfl
  · simp only [initPsshs_eq_filterMap, wantsMoov_handed_on]

/-- heterogeneous location sets are written item by item, never collapsed; three bare names
are written `all`; and either form is read back with the locations that counted -/
example :
    printSelection [(.playready, [.cenc]), (.clearkey, [.moov]), (.marlin, Loc.all)]
      = .items [(.playready, some [.cenc]), (.clearkey, some [.moov]), (.marlin, none)] ∧
    printSelection [(.playready, [.pro, .cenc, .moov]), (.marlin, Loc.all), (.clearkey, Loc.all)] = .all ∧
    (initPsshs true none true (readPrinted (printSelection
        [(.playready, [.cenc]), (.clearkey, [.moov]), (.marlin, Loc.all)])) [exKidPlaceholder] []).map (·.sys)
      = [ClearKey.psshSystemId] := by decide

/-- whatever was served before (init segments, manifests of
any mode, media, licence requests), the shared option state is still what it was at import,
and the response to an init request is the response a fresh process gives: a function of the
request only. -/
theorem init_history_independent (hist : List Req) (r : InitReq) :
    (serveAll Shared.init hist).2 = Shared.init ∧
    (serveAll Shared.init (hist ++ [.init r])).1
      = (serveAll Shared.init hist).1 ++ [serveInit Shared.init r] ∧
    serveInit Shared.init r
      = (parseSelection r.drm).map fun sel =>
          initBytes r.top (initPsshs r.encrypted r.version r.lastAlgIsAesCtr sel r.kids r.pro) r.live :=
  ⟨serveAll_state _ _, serveAll_append _ _ _, rfl⟩

/-- the shared default matters: were `moov` removed from the shared set (what an in-place
`discard` on the set handed out by the parser does), a bare `drm=playready` – the selection
`[(playready, shared set)]` – would lose its pssh: the dependency the `init_history` channel guards -/
example :
    (initPsshs true none true [(Sys.playready, [Loc.cenc, Loc.pro])] [exKidPlaceholder] []).length = 0 ∧
    (initPsshs true none true [(Sys.playready, Loc.all)] [exKidPlaceholder] []).length = 1 := by decide

/-- a concrete init segment, against vacuity: ftyp, moov(mvhd, mvex(mehd, trex), trak), styp –
payloads abbreviated -/
def exTop : List Box :=
  [.leaf [0x66, 0x74, 0x79, 0x70] [1, 2, 3, 4],
   .node moovType [.leaf [0x6d, 0x76, 0x68, 0x64] [9],
                   .node mvexType [.leaf mehdType [0, 0, 0, 7], .leaf [0x74, 0x72, 0x65, 0x78] [5, 5]],
                   .leaf [0x74, 0x72, 0x61, 0x6b] [8, 8, 8]],
   .leaf [0x73, 0x74, 0x79, 0x70] [6]]

def exKid : Bytes := [0x1a, 0xb4, 0x54, 0x40, 0x53, 0x2c, 0x43, 0x99, 0x94, 0xdc, 0x5c, 0x5a, 0xd9,
  0x58, 0x4b, 0xac]

def exIsC (t : Bytes) : Bool := t == moovType || t == mvexType

def childTypes : Box → List Bytes
  | .node _ cs => cs.map Box.typ
  | .leaf _ _ => []

/-- `drm=all`, live: ClearKey pssh then PlayReady pssh appended to `moov`, `mehd` gone from
`mvex`, the other boxes untouched, and the reader gets a tree with the same bytes back -/
example :
    let psshs := initPsshs true none true (Sys.all.map fun s => (s, Loc.all)) [exKid] [0xAA, 0xBB]
    psshs.map (·.sys) = [ClearKey.psshSystemId, playreadySystemId] ∧
    psshs.map (·.version) = [1, 0] ∧
    (parseBoxes exIsC 20 (initBytes exTop psshs true)).map encodeList
      = some (initBytes exTop psshs true) ∧
    (generateInit exTop (psshs.map PsshSpec.box) true).map Box.typ = exTop.map Box.typ ∧
    (generateInit exTop (psshs.map PsshSpec.box) true).map childTypes
      = [[], [[0x6d, 0x76, 0x68, 0x64], mvexType, [0x74, 0x72, 0x61, 0x6b], psshType, psshType], []] ∧
    (initBytes exTop psshs true).length = (encodeList exTop).length - 12 + 52 + 34 := by
  decide +kernel

/-- before the `fix:` commit `a0d3d40` the handler deleted `moov.mehd` (a direct child of `moov`);
on a real tree that removes nothing (`mehd` lives inside `mvex`) – the witness of the
repaired defect (ledger `live-init-keeps-mehd`) -/
example : encodeList (removeFirst mehdType [Box.leaf [0x6d, 0x76, 0x68, 0x64] [9],
      .node mvexType [.leaf mehdType [0, 0, 0, 7]]])
    = encodeList [Box.leaf [0x6d, 0x76, 0x68, 0x64] [9], .node mvexType [.leaf mehdType [0, 0, 0, 7]]] := by
  decide

end DashLive.C10
