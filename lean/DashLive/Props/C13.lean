import DashLive.Lemmas.Range
/-!
# C13 – byte-range requests return exactly the requested bytes

Every answer to a request with a `Range` header is an `Outcome` (`range_any_header`); the
theorems about a status are its projections (`Outcome.status`, `.exact206`, `.unsat`) through
`segment_outcome`/`onDemand_outcome`.  A theorem about a concrete header goes `Denotes` +
`parseRange_denotes` (it parses to its `Spec`), then `consumers_ofSpec` (`Lemmas/Range.lean`).

Quantification: every `Range` header **string** (any `List Char`, present or
absent), every resource content `data : List α` of every length (including 0),
every value `lim` of `sys.get_int_max_str_digits()`, both consumers
(`segmentResponse` – generated media segments, `onDemandResponse` – stored
on-demand files).  The model follows the code *after* the `fix:` commit for D4;
the examples at the end show, for a model of the code before that commit, that the
property fails at the D4 witnesses.
-/
namespace DashLive.Range

variable {α : Type}

/-- close a goal from `h : <concrete response>.status = <other status>` -/
local macro "status_absurd" h:ident : tactic =>
  `(tactic| (simp [badResp, okResp, unsatResp, segmentResponse, segmentResponseWith,
      onDemandResponse, onDemandResponseWith, getHttpRangeWith] at $h:ident))

/-- the three things a response to a request **with** a `Range` header can be -/
inductive Outcome (data : List α) (r : Response α) : Prop
  /-- 400, no `Content-Range` -/
  | refused (h : r = badResp)
  /-- 206, body = bytes `s..e` of the resource, `Content-Range: bytes s-e/len`, `0 ≤ s ≤ e < len` -/
  | served (s e : Nat) (hse : s ≤ e) (hlen : e < data.length) (h : r = okResp data s e)
  /-- 416, empty body, `Content-Range: bytes */len` -/
  | unsatisfied (h : r = unsatResp data)

theorem specResponse_outcome (sp : Spec) (data : List α) : Outcome data (specResponse sp data) := by
  by_cases hc : sp.Served data.length
  · exact .served _ _ hc.1 hc.2 (specResponse_of_served hc)
  · exact .unsatisfied (specResponse_of_not_served hc)

/-- **Every header string** is either refused with 400 or answered with a 206
whose body and `Content-Range` agree with a slice inside the resource, or with a
bodiless 416 `bytes */len` – for generated segments and for on-demand files. -/
theorem range_any_header (lim : Nat) (h : List Char) (data : List α) :
    Outcome data (segmentResponse lim (some h) data) ∧
    Outcome data (onDemandResponse lim (some h) data) := by
  cases hp : parseRange lim h with
  | none =>
    obtain ⟨h1, h2⟩ := consumers_unparsed data hp
    exact ⟨.refused h1, .refused h2⟩
  | some p =>
    obtain ⟨sp, rfl⟩ := parseRange_ofSpec hp
    obtain ⟨h1, h2⟩ := consumers_ofSpec data hp
    rw [h1, h2]
    exact ⟨specResponse_outcome sp data, specResponse_outcome sp data⟩

/-- **absent header**: a generated segment is returned whole with 200 and no
`Content-Range`; an on-demand file (where a range is mandatory) answers 400. -/
theorem range_absent (lim : Nat) (data : List α) :
    segmentResponse lim none data = { status := 200, body := data, contentRange := none } ∧
    onDemandResponse lim none data = badResp := ⟨rfl, rfl⟩

theorem onDemand_outcome (lim : Nat) (hdr : Option (List Char)) (data : List α) :
    Outcome data (onDemandResponse lim hdr data) := by
  cases hdr with
  | none => exact .refused rfl
  | some h => exact (range_any_header lim h data).2

/-- a segment answer other than the whole resource with 200 (no `Range` header) is an `Outcome` -/
theorem segment_outcome (lim : Nat) {hdr : Option (List Char)} (data : List α)
    (h : (segmentResponse lim hdr data).status ≠ 200) : Outcome data (segmentResponse lim hdr data) := by
  cases hdr with
  | none => exact absurd rfl h
  | some hd => exact (range_any_header lim hd data).1

/-- what a 206 must look like -/
def Exact206 (data : List α) (r : Response α) : Prop :=
  ∃ s e : Nat, s ≤ e ∧ e < data.length ∧
    r.body = (data.drop s).take (e - s + 1) ∧          -- body = data[s..e]
    r.body.length = e - s + 1 ∧                          -- Content-Length = end − start + 1
    r.contentRange = some (crText s e data.length)       -- "bytes s-e/len"

theorem okResp_exact (data : List α) (s e : Nat) (hse : s ≤ e) (hlen : e < data.length) :
    Exact206 data (okResp data s e) :=
  ⟨s, e, hse, hlen, rfl, by simp only [okResp, slice, List.length_take, List.length_drop]; omega, rfl⟩

namespace Outcome
variable {data : List α} {r : Response α}

theorem status (h : Outcome data r) : r.status = 206 ∨ r.status = 400 ∨ r.status = 416 := by
  cases h with
  | refused h => exact .inr (.inl (h ▸ rfl))
  | served s e _ _ h => exact .inl (h ▸ rfl)
  | unsatisfied h => exact .inr (.inr (h ▸ rfl))

theorem exact206 (h : Outcome data r) (hs : r.status = 206) : Exact206 data r := by
  cases h with
  | refused h => subst h; status_absurd hs
  | served s e hse hlen h => exact h ▸ okResp_exact data s e hse hlen
  | unsatisfied h => subst h; status_absurd hs

theorem unsat (h : Outcome data r) (hs : r.status = 416) : r = unsatResp data := by
  cases h with
  | refused h => subst h; status_absurd hs
  | served s e _ _ h => subst h; status_absurd hs
  | unsatisfied h => exact h

end Outcome

/-- **no Range value ever produces a 5xx** (nor any other unmapped status): the
status is one of 200, 206, 400, 416 for a segment and 206, 400, 416 for an
on-demand file, for every present or absent header. -/
theorem range_total (lim : Nat) (hdr : Option (List Char)) (data : List α) :
    ((segmentResponse lim hdr data).status = 200 ∨ (segmentResponse lim hdr data).status = 206 ∨
      (segmentResponse lim hdr data).status = 400 ∨ (segmentResponse lim hdr data).status = 416) ∧
    ((onDemandResponse lim hdr data).status = 206 ∨ (onDemandResponse lim hdr data).status = 400 ∨
      (onDemandResponse lim hdr data).status = 416) := by
  refine ⟨?_, (onDemand_outcome lim hdr data).status⟩
  by_cases h : (segmentResponse lim hdr data).status = 200
  · exact .inl h
  · exact .inr (segment_outcome lim data h).status

/-- **206 ⇒ exact**: whenever either consumer answers 206 (whatever the header
was), `0 ≤ start ≤ end < length`, the body is `data[start..end]`, its length is
`end − start + 1` and `Content-Range` is `bytes start-end/length`. -/
theorem range_206_exact (lim : Nat) (hdr : Option (List Char)) (data : List α) :
    ((segmentResponse lim hdr data).status = 206 → Exact206 data (segmentResponse lim hdr data)) ∧
    ((onDemandResponse lim hdr data).status = 206 → Exact206 data (onDemandResponse lim hdr data)) :=
  ⟨fun hs => (segment_outcome lim data (by omega)).exact206 hs, (onDemand_outcome lim hdr data).exact206⟩

/-- **416 ⇒ `bytes */length` and no body**, whatever the header was. -/
theorem range_416_exact (lim : Nat) (hdr : Option (List Char)) (data : List α) :
    ((segmentResponse lim hdr data).status = 416 → segmentResponse lim hdr data = unsatResp data) ∧
    ((onDemandResponse lim hdr data).status = 416 → onDemandResponse lim hdr data = unsatResp data) :=
  ⟨fun hs => (segment_outcome lim data (by omega)).unsat hs, (onDemand_outcome lim hdr data).unsat⟩

/-- a generated segment is answered 200 only when no `Range` header was sent -/
theorem range_200_iff_absent (lim : Nat) (hdr : Option (List Char)) (data : List α) :
    (segmentResponse lim hdr data).status = 200 ↔ hdr = none := by
  refine ⟨fun hs => ?_, fun hn => hn ▸ rfl⟩
  cases hdr with
  | none => rfl
  | some h =>
    have := (range_any_header lim h data).1.status
    omega

/-- RFC 7233 §4.1/§4.4: the response to a valid single range -/
def rfcResponse (sp : Spec) (data : List α) : Response α :=
  if sp.satisfiable data.length then okResp data (sp.bounds data.length).1 (sp.bounds data.length).2
  else unsatResp data

/-- `natRepr` is the text `toString` prints -/
theorem natRepr_eq_toString (n : Nat) : natRepr n = (toString n).toList := by
  simp only [natRepr, toString, Nat.toList_repr]

/-- **RFC 7233 for a syntactically valid single range.**  For the header
`<unit>=<d1>-<d2>` where `<unit>=` is `bytes=` in any letter case and `d1`, `d2`
are digit strings denoting the valid spec `sp`, both consumers answer exactly
what RFC 7233 prescribes (`rfcResponse`): satisfiable ⇒ 206 with `last` clamped
to `length−1` (a suffix longer than the resource gives the whole resource),
unsatisfiable ⇒ 416 `bytes */length` with an empty body.

Side condition (hence `_partial`): each number is written with at most `lim`
digits – CPython's `int()` refuses longer literals (`range_overlong` shows the
answer is 400 there; ledger entry `D4c-int-max-str-digits`). -/
theorem range_rfc7233_partial (lim : Nat) (pre d1 d2 : List Char) (sp : Spec) (data : List α)
    (hpre : lower pre = bytesEq) (hden : Denotes d1 d2 sp) (hvalid : sp.Valid)
    (hl1 : d1.length ≤ lim) (hl2 : d2.length ≤ lim) :
    segmentResponse lim (some (pre ++ d1 ++ '-' :: d2)) data = rfcResponse sp data ∧
    onDemandResponse lim (some (pre ++ d1 ++ '-' :: d2)) data = rfcResponse sp data := by
  rw [show rfcResponse sp data = specResponse sp data by
    simp only [specResponse, rfcResponse, Spec.satisfiable_iff hvalid]]
  exact consumers_ofSpec data (parseRange_denotes hpre hden hl1 hl2)

/-- **satisfiable ⇔ 206, unsatisfiable ⇔ 416** (same hypotheses) -/
theorem range_satisfiable_iff_partial (lim : Nat) (pre d1 d2 : List Char) (sp : Spec) (data : List α)
    (hpre : lower pre = bytesEq) (hden : Denotes d1 d2 sp) (hvalid : sp.Valid)
    (hl1 : d1.length ≤ lim) (hl2 : d2.length ≤ lim) :
    ((segmentResponse lim (some (pre ++ d1 ++ '-' :: d2)) data).status = 206 ↔
      sp.satisfiable data.length = true) ∧
    ((segmentResponse lim (some (pre ++ d1 ++ '-' :: d2)) data).status = 416 ↔
      sp.satisfiable data.length = false) := by
  rw [(range_rfc7233_partial lim pre d1 d2 sp data hpre hden hvalid hl1 hl2).1]
  unfold rfcResponse
  cases hs : sp.satisfiable data.length <;> simp [okResp, unsatResp]

/-- **a suffix range at least as long as the (non-empty) resource yields the
whole resource** with `Content-Range: bytes 0-(len−1)/len` -/
theorem range_suffix_whole_partial (lim : Nat) (pre d2 : List Char) (data : List α)
    (hpre : lower pre = bytesEq) (h2 : IsDigits d2) (hl2 : d2.length ≤ lim)
    (hn : data.length ≤ decVal d2) (hne : data ≠ []) :
    segmentResponse lim (some (pre ++ '-' :: d2)) data =
      { status := 206, body := data, contentRange := some (crText 0 (data.length - 1) data.length) } ∧
    onDemandResponse lim (some (pre ++ '-' :: d2)) data =
      { status := 206, body := data, contentRange := some (crText 0 (data.length - 1) data.length) } := by
  have hlen : 0 < data.length := List.length_pos_iff.mpr hne
  have hs : specResponse (.suffix (decVal d2)) data
      = { status := 206, body := data, contentRange := some (crText 0 (data.length - 1) data.length) } := by
    rw [specResponse_of_served (by simp only [Spec.Served, Spec.bounds]; omega)]
    simp only [Spec.bounds, Nat.sub_eq_zero_of_le hn, okResp, slice, List.drop_zero]
    rw [List.take_of_length_le (by omega)]
  rw [← hs]
  simpa only [List.append_nil] using
    consumers_ofSpec data (parseRange_denotes hpre (.suffix h2) (Nat.zero_le _) hl2)

/-- a `first-last` spec with `last < first` (invalid by RFC 7233 §2.1, "MUST
ignore") is refused with 416 `bytes */len` and an empty body -/
theorem range_inverted_partial (lim : Nat) (pre d1 d2 : List Char) (data : List α)
    (hpre : lower pre = bytesEq) (h1 : IsDigits d1) (h2 : IsDigits d2)
    (hl1 : d1.length ≤ lim) (hl2 : d2.length ≤ lim) (hinv : decVal d2 < decVal d1) :
    segmentResponse lim (some (pre ++ d1 ++ '-' :: d2)) data = unsatResp data ∧
    onDemandResponse lim (some (pre ++ d1 ++ '-' :: d2)) data = unsatResp data := by
  have hu : specResponse (.firstLast (decVal d1) (decVal d2)) data = unsatResp data :=
    specResponse_of_not_served (by simp only [Spec.Served, Spec.bounds]; omega)
  rw [← hu]
  exact consumers_ofSpec data (parseRange_denotes hpre (.firstLast h1 h2) hl1 hl2)

/-- the region excluded by the `_partial` theorems, completely characterised: a
number written with more than `lim` digits makes both consumers answer 400 -/
theorem range_overlong (lim : Nat) (pre d1 d2 : List Char) (data : List α)
    (hpre : lower pre = bytesEq) (h1 : AllDigits d1) (h2 : AllDigits d2)
    (hlong : lim < d1.length ∨ lim < d2.length) :
    segmentResponse lim (some (pre ++ d1 ++ '-' :: d2)) data = badResp ∧
    onDemandResponse lim (some (pre ++ d1 ++ '-' :: d2)) data = badResp := by
  apply consumers_unparsed
  rw [parseRange_canonical_split hpre h1 h2]
  -- `int()` raises at the first over-long number; a `d1` before it parses, if there is one
  by_cases hl : lim < d1.length
  · rw [if_neg (List.ne_nil_of_length_pos (Nat.zero_lt_of_lt hl)), pyInt_of_lt_length h1 hl]
  · have hl2 : lim < d2.length := hlong.resolve_left hl
    have e2 := pyInt_of_lt_length h2 hl2
    by_cases hd : d1 = []
    · rw [if_pos hd, e2]
      rfl
    · rw [if_neg hd, pyInt_of_length_le ⟨hd, h1⟩ (Nat.le_of_not_lt hl)]
      simp only [if_neg (List.ne_nil_of_length_pos (Nat.zero_lt_of_lt hl2)), e2, Option.map_none]

/-- **the Content-Range text names exactly one slice and one length**: two 206
headers are equal only when first, last and full length are all equal, so a
client reading `bytes s-e/len` back recovers exactly what the server meant. -/
theorem contentRange_unambiguous (s e len s' e' len' : Nat)
    (h : crText s e len = crText s' e' len') : s = s' ∧ e = e' ∧ len = len' := by
  simp only [crText, List.cons_append, List.nil_append, List.cons.injEq, true_and,
    List.append_assoc] at h
  obtain ⟨hs, h⟩ := digits_sep_unique (sep := '-') (by decide) (natRepr_isDigits s).2
    (natRepr_isDigits s').2 h
  obtain ⟨he, hl⟩ := digits_sep_unique (sep := '/') (by decide) (natRepr_isDigits e).2
    (natRepr_isDigits e').2 h
  exact ⟨natRepr_injective hs, natRepr_injective he, natRepr_injective hl⟩

/-- the 416 text cannot be confused with a 206 text -/
theorem contentRange_unsat_distinct (s e len len' : Nat) : crText s e len ≠ crUnsatisfied len' :=
  crText_ne (c := '*') (by decide) s e len _

theorem Exact206.reads_back {data : List α} {r : Response α} {s e n : Nat} (h : Exact206 data r)
    (hcr : r.contentRange = some (crText s e n)) :
    n = data.length ∧ s ≤ e ∧ e < n ∧ r.body = (data.drop s).take (e - s + 1) := by
  obtain ⟨s', e', hse, hlen, hb, _, hc⟩ := h
  rw [hc, Option.some.injEq] at hcr
  obtain ⟨rfl, rfl, rfl⟩ := contentRange_unambiguous _ _ _ _ _ _ hcr
  exact ⟨rfl, hse, hlen, hb⟩

/-- **what a client reads back is what was served**: if either consumer answers
206 and its `Content-Range` reads as `bytes s-e/n` for *any* numbers `s e n`, then
`n` is the full length, `s ≤ e < n`, and the body is exactly `data[s..e]`. -/
theorem range_206_reads_back (lim : Nat) (hdr : Option (List Char)) (data : List α) (s e n : Nat) :
    ((segmentResponse lim hdr data).status = 206 →
      (segmentResponse lim hdr data).contentRange = some (crText s e n) →
      n = data.length ∧ s ≤ e ∧ e < n ∧ (segmentResponse lim hdr data).body = (data.drop s).take (e - s + 1)) ∧
    ((onDemandResponse lim hdr data).status = 206 →
      (onDemandResponse lim hdr data).contentRange = some (crText s e n) →
      n = data.length ∧ s ≤ e ∧ e < n ∧ (onDemandResponse lim hdr data).body = (data.drop s).take (e - s + 1)) :=
  ⟨fun hst => ((range_206_exact lim hdr data).1 hst).reads_back,
   fun hst => ((range_206_exact lim hdr data).2 hst).reads_back⟩

/-- a 416 answer's `Content-Range` never reads as a satisfied range -/
theorem range_416_not_a_slice (lim : Nat) (hdr : Option (List Char)) (data : List α) (s e n : Nat) :
    ((segmentResponse lim hdr data).status = 416 →
      (segmentResponse lim hdr data).contentRange ≠ some (crText s e n)) ∧
    ((onDemandResponse lim hdr data).status = 416 →
      (onDemandResponse lim hdr data).contentRange ≠ some (crText s e n)) := by
  have hu : (unsatResp data).contentRange ≠ some (crText s e n) :=
    fun hcr => contentRange_unsat_distinct s e n _ (Option.some.inj hcr).symm
  obtain ⟨h1, h2⟩ := range_416_exact lim hdr data
  exact ⟨fun hst => by rw [h1 hst]; exact hu, fun hst => by rw [h2 hst]; exact hu⟩

/-- ten bytes `0..9` -/
def exData : List Nat := [0, 1, 2, 3, 4, 5, 6, 7, 8, 9]

-- the hypotheses of `range_rfc7233_partial` hold at a non-trivial instance: `Bytes=02-4`
example : lower ['B', 'y', 't', 'e', 's', '='] = bytesEq := by decide
example : Denotes ['0', '2'] ['4'] (.firstLast 2 4) :=
  .firstLast (d1 := ['0', '2']) (d2 := ['4']) ⟨by decide, by decide⟩ ⟨by decide, by decide⟩
example : (Spec.firstLast 2 4).Valid := by show 2 ≤ 4; decide
example : segmentResponse 4300 (some (['B', 'y', 't', 'e', 's', '='] ++ ['0', '2'] ++ '-' :: ['4'])) exData
    = { status := 206, body := [2, 3, 4],
        contentRange := some ['b', 'y', 't', 'e', 's', ' ', '2', '-', '4', '/', '1', '0'] } := by decide +kernel

-- `range_206_reads_back` at a concrete instance: both hypotheses hold for `Bytes=02-4`
example : (segmentResponse 4300 (some (['B', 'y', 't', 'e', 's', '='] ++ ['0', '2'] ++ '-' :: ['4'])) exData).status = 206 ∧
    (segmentResponse 4300 (some (['B', 'y', 't', 'e', 's', '='] ++ ['0', '2'] ++ '-' :: ['4'])) exData).contentRange
      = some (crText 2 4 10) := by decide +kernel

-- clamping of last-byte-pos, suffix longer than the resource, unsatisfiable first-byte-pos
example : segmentResponse 4300 (some (bytesEq ++ ['5', '-', '9', '9'])) exData
    = okResp exData 5 9 := by decide +kernel
example : onDemandResponse 4300 (some (bytesEq ++ ['-', '2', '0'])) exData
    = okResp exData 0 9 := by decide +kernel
example : segmentResponse 4300 (some (bytesEq ++ ['1', '0', '-'])) exData = unsatResp exData := by decide +kernel
-- a non-RFC spelling that `strip()`, `lower()` and `int()` let through (blanks, sign, underscore): served
example : segmentResponse 4300 (some [' ', 'B', 'Y', 'T', 'E', 'S', '=', ' ', '+', '1', '_', '0', '-', ' ']) (exData ++ exData)
    = okResp (exData ++ exData) 10 19 := by decide +kernel

-- the excluded point of the `_partial` theorems (model level, `lim = 3`): the RFC-valid
-- `bytes=0000-5` is refused with 400 instead of the RFC answer
example : segmentResponse 3 (some (bytesEq ++ ['0', '0', '0', '0', '-', '5'])) exData
    ≠ rfcResponse (.firstLast 0 5) exData := by decide +kernel

-- hypotheses of `range_suffix_whole_partial` / `range_inverted_partial` at concrete instances, and
-- their excluded point (`lim = 1`, two-digit numbers): refused with 400
example : IsDigits ['2', '0'] ∧ exData.length ≤ decVal ['2', '0'] ∧ exData ≠ [] :=
  ⟨⟨by decide, by decide⟩, by decide, by decide⟩
example : segmentResponse 1 (some (bytesEq ++ '-' :: ['2', '0'])) exData = badResp := by decide +kernel
example : IsDigits ['1', '2'] ∧ IsDigits ['0', '5'] ∧ decVal ['0', '5'] < decVal ['1', '2'] :=
  ⟨⟨by decide, by decide⟩, ⟨by decide, by decide⟩, by decide⟩
example : segmentResponse 4300 (some (bytesEq ++ ['1', '2'] ++ '-' :: ['0', '5'])) exData = unsatResp exData := by
  decide +kernel
example : onDemandResponse 1 (some (bytesEq ++ ['1', '2'] ++ '-' :: ['0', '5'])) exData = badResp := by decide +kernel

/-- D4 (a) on the **unrepaired** logic: `bytes=-20` on a 10-byte segment is
answered 206 with the impossible `Content-Range: bytes -10-9/10` -/
example : segmentResponseOld 4300 (some (bytesEq ++ ['-', '2', '0'])) exData
    = { status := 206, body := exData,
        contentRange := some ['b', 'y', 't', 'e', 's', ' ', '-', '1', '0', '-', '9', '/', '1', '0'] } := by
  decide +kernel

example : ¬ Outcome exData (segmentResponseOld 4300 (some (bytesEq ++ ['-', '2', '0'])) exData) := by
  intro h
  have hcr : (segmentResponseOld 4300 (some (bytesEq ++ ['-', '2', '0'])) exData).contentRange
      = some ['b', 'y', 't', 'e', 's', ' ', '-', '1', '0', '-', '9', '/', '1', '0'] := by decide +kernel
  cases h with
  | refused e => rw [e] at hcr; exact absurd hcr (by decide)
  | unsatisfied e => rw [e] at hcr; exact absurd hcr (by decide)
  | served s t _ _ e =>
    rw [e] at hcr
    exact crText_ne (c := '-') (by decide) s t _ _ (Option.some.inj hcr)

/-- D4 (b) on the unrepaired logic: the same header on an on-demand file seeks to
a negative offset: 500 -/
example : (onDemandResponseOld 4300 (some (bytesEq ++ ['-', '2', '0'])) exData).status = 500 := by decide +kernel

/-- D4 (c) on the unrepaired logic: `bytes=5-99` (last-byte-pos beyond the end)
is answered 416 **with** a 5-byte body instead of 206 `bytes 5-9/10` -/
example : segmentResponseOld 4300 (some (bytesEq ++ ['5', '-', '9', '9'])) exData
    = { status := 416, body := [5, 6, 7, 8, 9],
        contentRange := some ['b', 'y', 't', 'e', 's', ' ', '*', '/', '1', '0'] } := by decide +kernel

example : segmentResponseOld 4300 (some (bytesEq ++ ['5', '-', '9', '9'])) exData
    ≠ rfcResponse (.firstLast 5 99) exData := by decide +kernel

end DashLive.Range
