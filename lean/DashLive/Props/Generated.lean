import DashLive.Props.C01
import DashLive.Props.C02
import DashLive.Props.C06
import DashLive.Props.C09
import DashLive.Props.GenTieTimeline
import DashLive.Props.GenTieLiveIndex
/-!
# The property theorems restated about the definitions regenerated from the source

`Gen/Arith.lean`, `Gen/Timeline.lean` and `Gen/LiveIndex.lean` are rewritten from /repo's source
text on every run.  The theorems of C01, C02, C06 and C09 are proved about the hand-written model in
`Model/Segments.lean`; the tie theorems (`Props/GenTie*.lean`) prove the translated definitions
equal to that model.  Here the two are composed, so that the statement the Lean kernel accepts
mentions *only* translated definitions (plus the float conversions, which are parameters):
what the translated `generateSegmentTimeline` lists, the translated request handler serves.
-/
open DashLive DashLive.Segments DashLive.GenTie
namespace DashLive.Generated
open Gen.Timeline

/-- the SegmentTimeline a live manifest carries, computed by the *translated* code: the live
branch of `generateSegmentTimeline` (`timeline_start = timedelta_to_timecode(firstAvailableTime)`,
the translated `get_segment_index`, `drift`, `end`) followed by the translated loop -/
def liveTimelineG (durs : List Nat) (refDur refTs ts : Nat) (w : Win) (fuel : Nat) : List (Int × Int) :=
  let us := w.E - w.tsbd * 1000000      -- firstAvailableTime in µs, as timedelta fields below
  let timeline_start := Gen.Arith.timedeltaToTimecode ((us / 86400000000 : Nat) : Int)
    ((us % 86400000000 / 1000000 : Nat) : Int) ((us % 86400000000 % 1000000 : Nat) : Int) ts
  let g := Gen.Arith.getSegmentIndex (segDurOf durs) refDur refTs ts durs.length timeline_start (durs.length + 1)
  expand ((generateSegmentTimeline_tail (segDurOf durs) (seg_start_time := g.2.1) (mod_segment := g.1)
    (drift := Gen.Arith.mediaDurationUsingTimescale refDur refTs ts - ((durs.sum : Nat) : Int))
    (end_ := (w.tsbd : Int) * (ts : Int)) (num_media_segments := durs.length) fuel).map conv)

theorem liveTimelineG_eq (durs : List Nat) (refDur refTs ts : Nat) (w : Win) (fuel : Nat) :
    liveTimelineG durs refDur refTs ts w fuel = liveEntries durs (refDuration refDur refTs ts) ts w fuel := by
  unfold liveTimelineG liveEntries tcFirst
  dsimp only
  rw [tie_tdToTc]
  exact congrArg expand (tie_timelineLive durs refDur refTs ts _ w.tsbd fuel)

/-- the media handler's answer to a live `$Time$` request, computed by the translated code -/
def serveTimeG (convM : Nat → Int) (durs : List Nat) (ts sd sn refDur refTs : Nat) (w : Win) (t : Int) :
    Option (Int × Int × Int) :=
  Gen.LiveIndex.liveIndexTime (fun x => convM x.toNat) (segDurOf durs) sn ts sd durs.length w.E w.F w.leeway w.tsbd
    (scaleTd w.E ts sd) refDur refTs (durs.length + 1) t

def serveNumberG (convM : Nat → Int) (durs : List Nat) (ts sd sn refDur refTs : Nat) (w : Win) (n : Int) :
    Option (Int × Int × Int) :=
  Gen.LiveIndex.liveIndexNumber (fun x => convM x.toNat) (segDurOf durs) sn ts sd durs.length w.E w.F w.leeway w.tsbd
    (scaleTd w.E ts sd) refDur refTs (durs.length + 1) n

/-- **C01 (`$Time$`) about the translated code**: every entry `(t, d)` the translated
`generateSegmentTimeline` lists whose end is not later than now is answered (not 404) by the
translated handler at the same instant. -/
theorem C01_time_generated (convM : Nat → Int) (durs : List Nat) (ts sd sn refDur refTs : Nat) (w : Win) (fuel : Nat)
    (hn : 2 ≤ durs.length) (hR : 0 < refDuration refDur refTs ts) (hts : 0 < ts) (hsd : 0 < sd)
    (hw : w.tsbd * 1000000 ≤ w.E) (hconv : ConvSpec convM ts)
    (hadv : AdvMicro durs (refDuration refDur refTs ts) ts) (hlee : LeewayTime durs ts w) (hhalf : HalfSeg durs sd) :
    ∀ e ∈ liveTimelineG durs refDur refTs ts w fuel, (e.1 + e.2) * 1000000 ≤ (w.E : Int) * ts →
      (serveTimeG convM durs ts sd sn refDur refTs w (e.1.toNat : Nat)).isSome := by
  intro e he hend
  rw [liveTimelineG_eq, liveEntries] at he
  obtain ⟨i, hi, rfl⟩ := List.getElem_of_mem he
  obtain ⟨m, o, k, hk⟩ := C01_time_partial convM durs ts sd sn (refDuration refDur refTs ts) w fuel hn hR hts hsd hw
    hconv hadv hlee hhalf i hi hend
  unfold serveTimeG
  rw [tie_liveIndexTime, hk]
  rfl

/-- **C01 (`$Number$`) about the translated code** -/
theorem C01_number_generated (convM : Nat → Int) (durs : List Nat) (ts sd sn refDur refTs : Nat) (w : Win) (k : Nat)
    (hn : 2 ≤ durs.length) (hts : 0 < ts) (hsd : 0 < sd)
    (hw : w.tsbd * 1000000 ≤ w.E) (hconv : ConvSpec convM ts)
    (hlee : LeewayNumber ts sd w) (hmicro : ts ≤ sd * 1000000)
    (hstart : (k + 1) * sd * 1000000 ≤ w.E * ts)
    (hendw : w.E * ts ≤ (k + 2) * sd * 1000000 + w.tsbd * 1000000 * ts) :
    ∃ m o, serveNumberG convM durs ts sd sn refDur refTs w ((sn : Int) + k) = some (m, o, (sn : Int) + k) := by
  obtain ⟨m, o, h⟩ := C01_number_partial convM durs ts sd sn (refDuration refDur refTs ts) w k hn hts hsd hw hconv
    hlee hmicro hstart hendw
  refine ⟨m, o, ?_⟩
  unfold serveNumberG
  rw [tie_liveIndexNumber, h]
  rfl

/-- **C09 (agreement) about the translated code**: two live manifests of the same stream – any two
clocks, any depths – agree on every segment they both list -/
theorem C09_shared_entries_generated (durs : List Nat) (refDur refTs ts : Nat) (w₁ w₂ : Win) (f₁ f₂ : Nat)
    (hn : 0 < durs.length) (hpos : AdvPositive durs (refDuration refDur refTs ts)) :
    ∀ e₁ ∈ liveTimelineG durs refDur refTs ts w₁ f₁, ∀ e₂ ∈ liveTimelineG durs refDur refTs ts w₂ f₂,
      e₁.1 = e₂.1 → e₁ = e₂ := by
  intro e₁ h₁ e₂ h₂ heq
  rw [liveTimelineG_eq] at h₁ h₂
  obtain ⟨i, hi, rfl⟩ := List.getElem_of_mem h₁
  obtain ⟨j, hj, rfl⟩ := List.getElem_of_mem h₂
  exact C09_shared_entries_equal durs _ ts w₁ w₂ f₁ f₂ hn hpos i j hi hj heq

/-- **C09 (the window only moves forward) about the translated code**: when firstAvailableTime of
the second request is not before that of the first, the first entry the later manifest lists does
not start before the first entry of the earlier one -/
theorem C09_window_start_generated (durs : List Nat) (refDur refTs ts : Nat) (w₁ w₂ : Win) (f₁ f₂ : Nat)
    (hn : 0 < durs.length) (hR : 0 < refDuration refDur refTs ts)
    (hpos : AdvPositive durs (refDuration refDur refTs ts))
    (hF : w₁.E - w₁.tsbd * 1000000 ≤ w₂.E - w₂.tsbd * 1000000)
    (h1 : 0 < (liveTimelineG durs refDur refTs ts w₁ f₁).length)
    (h2 : 0 < (liveTimelineG durs refDur refTs ts w₂ f₂).length) :
    ((liveTimelineG durs refDur refTs ts w₁ f₁)[0]'h1).1 ≤ ((liveTimelineG durs refDur refTs ts w₂ f₂)[0]'h2).1 := by
  -- `h1 h2` are reverted so that the index proofs stay variables: a bound built with `▸` makes the
  -- kernel try to reduce the cast, i.e. to unify translated and model timeline by unfolding.
  revert h1 h2
  rw [liveTimelineG_eq, liveTimelineG_eq]
  unfold liveEntries
  intro h1 h2
  -- `Nat.add_zero` is rewritten, not left to `exact`: deciding `index … + 0 ≡ index …` evaluates `index`
  rw [timelineLive_get durs _ ts _ _ f₁ hn hpos 0 h1, timelineLive_get durs _ ts _ _ f₂ hn hpos 0 h2,
    Nat.add_zero, Nat.add_zero]
  exact Int.ofNat_le.mpr ((hpos.strictMono hn).monotone
    (C09_window_start_forward durs _ ts w₁ w₂ hR hn hF))

/-- **C02 (`$Time$` resolves) about the translated `get_segment_index`** -/
theorem C02_time_resolves_generated (durs : List Nat) (refDur refTs ts g : Nat) (hn : 0 < durs.length)
    (h1 : StartsInsideLoop durs (refDuration refDur refTs ts)) (h2 : PositiveDurs durs) :
    Gen.Arith.getSegmentIndex (segDurOf durs) refDur refTs ts durs.length
        (startG durs (refDuration refDur refTs ts) g) (durs.length + 1)
      = (((g % durs.length + 1 : Nat) : Int), ((startG durs (refDuration refDur refTs ts) g : Nat) : Int),
         ((g / durs.length * refDuration refDur refTs ts : Nat) : Int)) := by
  rw [tie_getSegmentIndex, C02_time_resolves durs _ g hn h1 h2]

/-- **C06 (VOD timeline) about the translated code** -/
theorem C06_timeline_generated (durs : List Nat) (fuel : Nat) (hn : 0 < durs.length)
    (hpos : ∀ m, m < durs.length → 1 ≤ durAt durs m) (hf : durs.length ≤ fuel) :
    expand ((generateSegmentTimelineVod (segDurOf durs) (mediaDuration := ((durs.sum : Nat) : Int))
        (num_media_segments := durs.length) fuel).map conv)
      = (List.range' 0 durs.length).map (fun i => ((prefixSum durs i : Int), (durAt durs i : Int))) := by
  rw [tie_timelineVod, vod_timeline_exact durs fuel hn hpos hf]

/-- **C06 (VOD numbers) about the translated handler** -/
theorem C06_numbers_generated (conv' segDur : Int → Int) (n sd sn j : Nat) (ts E F l tsbd scaled rmd rts : Int) (fuel : Nat) :
    (j < n → Gen.LiveIndex.vodIndexNumber conv' segDur sn ts sd n E F l tsbd scaled rmd rts fuel ((sn : Int) + j)
        = some (((j + 1 : Nat) : Int), 0, (sn : Int) + j)) ∧
    Gen.LiveIndex.vodIndexNumber conv' segDur sn ts sd n E F l tsbd scaled rmd rts fuel ((sn : Int) + n) = none := by
  obtain ⟨h1, h2⟩ := vod_numbers_enumerated n sd sn j
  constructor
  · intro hj
    rw [tie_vodIndexNumber, h1 hj]; rfl
  · rw [tie_vodIndexNumber, h2]; rfl

/-- **C06 (VOD `$Time$`) about the translated handler** (same regularity hypothesis as `vod_time_partial`) -/
theorem C06_time_generated (conv' segDur : Int → Int) (durs : List Nat) (sd sn k : Nat) (hk : k < durs.length)
    (hreg : k * sd ≤ prefixSum durs k + sd / 4 ∧ prefixSum durs k + sd / 4 < (k + 1) * sd)
    (ts E F l tsbd scaled rmd rts : Int) (fuel : Nat) :
    Gen.LiveIndex.vodIndexTime conv' segDur sn ts sd durs.length E F l tsbd scaled rmd rts fuel (prefixSum durs k : Nat)
      = some (((k + 1 : Nat) : Int), 0, (k : Int) + sn) := by
  rw [tie_vodIndexTime, vod_time_partial durs sd sn k hk hreg]; rfl

end DashLive.Generated
