import DashLive.Lemmas.Inject
import DashLive.Gen.ParserLoops
import DashLive.Props.C07
import DashLive.Props.C12
import DashLive.Props.C14
/-!
# C16 – no request causes an uncontrolled failure; injected errors fire exactly as asked

A theorem cannot exhibit a Python exception raised deep in glue code.  What is logic, and proved
here for all inputs: which exception classes the option layer can raise for the `str` values an
HTTP query carries, and what the handlers make of them; the error-injection counter state
machine; termination of the loops whose trip count depends on request data, each with its
non-termination witness for the excluded value.  The rest of the quantifier of C16 (every route ×
query × stream state, mutated MP4 input) is *explored* by the harness (`fuzz_http`, `fuzz_mp4`),
and labelled so in the evidence.

The injection theorems are read off `Lemmas/Inject`: what a request is answered
(`inject_only_addressed`) from `step_eq` and `checkLoop_some`, what it does to the counters
(`inject_isolated_*`, `foreign_*`) from `step_frame`, the counting law `inject_exact` from
`run_target`.
-/
namespace DashLive.C16
open DashLive.OptionErrors DashLive.Inject
open DashLive.Options (Bytes Val DTCodec OptionRow Kind LocSet ascii findRow)

/-- the only registered option whose codec can raise `KeyError` is `drm` (checked on the
generated registry table on every run) -/
theorem table_key_error_rows :
    (DashLive.Gen.Options.table.all fun r => r.kind != .drmSelection || r.cgi == "drm") = true := by
  decide

/-- **option_parse_kinds.** For every registered option (generated table) and every text,
the registered `from_string` returns a value or raises `ValueError`; the one other class,
`KeyError`, comes only from the `drm` option (`DrmLocation.from_string`) – and is the one
class `convert_options` swallows. -/
theorem option_parse_kinds {DT : Type} (C : DTCodec DT) (row : OptionRow)
    (hr : row ∈ DashLive.Gen.Options.table) (s : Bytes) :
    (∃ v, fromStringX C row.kind s = .ok v) ∨ fromStringX C row.kind s = .error .valueError ∨
      (fromStringX C row.kind s = .error .keyError ∧ row.cgi = "drm") := by
  rcases fromStringX_cases C row.kind s with h | h | ⟨h, hk⟩
  · exact .inl h
  · exact .inr (.inl h)
  · have hrow := List.all_eq_true.mp table_key_error_rows row hr
    rw [hk] at hrow
    exact .inr (.inr ⟨h, by simpa using hrow⟩)

/-- **convert_kinds.** `convert_options` over any registry and any query: a container, or
`ValueError` – never another exception class. -/
theorem convert_kinds {DT : Type} (C : DTCodec DT) (tbl : List OptionRow) (dflt : Nat → Val DT)
    (q : List (Bytes × Bytes)) :
    (∃ o, convertX C tbl dflt q = .ok o) ∨ convertX C tbl dflt q = .error .valueError := by
  induction q generalizing dflt with
  | nil => exact .inl ⟨dflt, rfl⟩
  | cons kv r ih =>
    unfold convertX
    rcases convertStepX_cases C tbl dflt kv with ⟨o, ho⟩ | ho <;> rw [ho]
    · exact ih o
    · exact .inr rfl

/-- **calc_options_kinds.** `calculate_options` (conversion + `check_option_values`): the
options, or `ValueError` – the one class every handler maps to 400. -/
theorem calc_options_kinds (C : DTCodec IsoClass) (tbl : List OptionRow) (dflt : Nat → Val IsoClass)
    (q : List (Bytes × Bytes)) :
    (∃ o, calcOptions C tbl dflt q = .ok o) ∨ calcOptions C tbl dflt q = .error .valueError := by
  unfold calcOptions
  cases !rawLicenseUrlsOk q with
  | true => exact .inr rfl
  | false =>
    rw [cond_false]
    rcases convert_kinds C tbl dflt q with ⟨o, ho⟩ | ho
    · rw [ho]
      dsimp only
      cases !licenseUrlsOk tbl o with
      | true => exact .inr rfl
      | false =>
        exact checkValues_exits C tbl _ o (P := fun r => (∃ o', r = .ok o') ∨ r = .error .valueError)
          (.inr rfl) fun _ _ _ => .inl ⟨_, rfl⟩
    · rw [ho]
      exact .inr rfl

/-- the handlers' guarded block therefore answers 400 or goes on – it never lets an
exception escape (status 500) -/
theorem guarded_calc_no_500 (C : DTCodec IsoClass) (tbl : List OptionRow) (dflt : Nat → Val IsoClass)
    (q : List (Bytes × Bytes)) :
    (∃ o, guarded (calcOptions C tbl dflt q) = .ok o) ∨ guarded (calcOptions C tbl dflt q) = .error 400 := by
  rcases calc_options_kinds C tbl dflt q with ⟨o, h⟩ | h
  · rw [h]; exact Or.inl ⟨o, rfl⟩
  · rw [h]; exact Or.inr rfl

/-- the same for the form the handlers use (they keep no value of the guarded block) -/
theorem guarded_calc_error (C : DTCodec IsoClass) (tbl : List OptionRow) (dflt : Nat → Val IsoClass)
    (q : List (Bytes × Bytes)) {st : Nat}
    (h : guarded ((calcOptions C tbl dflt q).map fun _ => ()) = .error st) : st = 400 := by
  rcases calc_options_kinds C tbl dflt q with ⟨o, ho⟩ | ho <;> rw [ho] at h <;> cases h
  rfl

/-- cgi names are unique, so "the option of a parameter" (`get_cgi_map()[key]`) is the
first row with that name -/
theorem table_names_nodup : (DashLive.Gen.Options.table.map (·.cgi)).Nodup :=
  DashLive.Options.table_cgi_nodup DashLive.Options.table_wellformed

/-- the options `check_option_values` reads exist and have the codec the check assumes -/
theorem table_fields_resolve :
    (([("drm", Kind.drmSelection), ("time", .strOrNone), ("start", .astDateTime),
       ("aerr", .errorList), ("merr", .errorList), ("terr", .errorList), ("verr", .errorList),
       ("vcorrupt", .listJoin), ("events", .listJoin), ("drift", .intOrNone), ("leeway", .intOrNone),
       ("mup", .intOrNone), ("depth", .intOrNone), ("failures", .intOrNone), ("update", .intOrNone)] :
      List (String × Kind)).all fun p =>
        match findRow DashLive.Gen.Options.table (ascii p.1) with
        | some i => (DashLive.Gen.Options.table[i]?.map (·.kind)) == some p.2
        | none => false) = true := by
  -- `String.toList` of a literal is slow in the kernel; `asciiFast` reads its UTF-8 bytes (`Lemmas/Ascii`)
  unfold findRow
  rw [DashLive.Options.ascii_eq_fast]
  decide +kernel

/-- the per-event options exist for every event type the check knows, as integers -/
theorem table_event_fields_resolve :
    ((eventTypes.flatMap fun e => ["count", "timescale", "duration", "version", "interval", "start"].map
        fun k => e ++ "__" ++ k).all fun name =>
        match findRow DashLive.Gen.Options.table (ascii name) with
        | some i =>
          (match (DashLive.Gen.Options.table[i]?.map (·.kind) : Option Kind) with
           | some (Kind.intOrDefault _) => true
           | some (Kind.posIntOrDefault _) => true
           | _ => false)
        | none => false) = true := by
  unfold findRow
  rw [DashLive.Options.ascii_eq_fast]
  decide +kernel

/-- the text `get_default_options` feeds to every registered `from_string` parses (it
runs when the first request arrives; a default that raised would fail every request) -/
theorem table_defaults_parse :
    (DashLive.Gen.Options.table.all fun r =>
      match fromStringX nullCodec r.kind (ascii r.dflt) with
      | .ok _ => true
      | .error _ => false) = true := by
  rw [DashLive.Options.ascii_eq_fast]
  decide +kernel

/-- **validated_drm_no_assert** (D6).  Options that passed `check_option_values` never
trip the `assert drm_name in DrmSystem.values()` of `generate_drm_location_tuples`. -/
theorem validated_drm_no_assert (C : DTCodec IsoClass) (tbl : List OptionRow) (d : Val IsoClass)
    (o o' : Nat → Val IsoClass) (h : checkValues C tbl d o = .ok o') (sel : List (Bytes × LocSet))
    (hsel : field tbl o "drm" = .drm sel) : ∃ names, drmTuples sel = .ok names := by
  have hd := (checkValues_ok C h).1
  unfold drmNamesOk at hd
  rw [hsel] at hd
  cases hm : drmTuples sel with
  | ok names => exact ⟨names, rfl⟩
  | error e =>
    obtain ⟨a, ha, hfa⟩ := mapM_error hm
    rw [if_pos (List.all_eq_true.mp hd a ha)] at hfa
    cases hfa

/-- **validated_time_source** (D6).  …nor the `raise ValueError('Unknown time method')` of
`TimeSourceContext`, which sits outside the handlers' guarded block. -/
theorem validated_time_source (C : DTCodec IsoClass) (tbl : List OptionRow) (d : Val IsoClass)
    (o o' : Nat → Val IsoClass) (h : checkValues C tbl d o = .ok o') (m : Bytes)
    (hm : field tbl o "time" = .str m) : timeSource m = .ok () := by
  have hu := (checkValues_ok C h).2
  unfold utcMethodOk at hu
  rw [hm] at hu
  exact if_pos hu

/-- without the validation both sites fail – the first with an exception class the handlers
do not map, the second outside their guarded block (this is what `?drm=foo` and `?time=bogus`
did before e0c6070) -/
example : drmTuples [(ascii "foo", LocSet.all)] = .error .assertionError := by decide +kernel
example : timeSource (ascii "bogus") = .error .valueError := by decide +kernel
example : escapes .assertionError = 500 := rfl

/-- **confused_escapes.** The hypothesis "the argument is a `str`" cannot be dropped: an
`int` handed to `int_or_none_from_string` raises `TypeError`, `None` handed to
`bool_from_string` raises `AttributeError`, and the guarded block lets both through as 500.
(`flask.request.args` only holds `str`, so no HTTP request gets here.) -/
theorem confused_escapes :
    fromStringAny nullCodec .intOrNone (.int false) = .error .typeError ∧
    fromStringAny nullCodec .bool .none = .error .attributeError ∧
    guarded (.error .typeError : Except Exc Unit) = .error 500 ∧
    guarded (.error .attributeError : Except Exc Unit) = .error 500 := by
  decide

/-- **handler_status_no_5xx_partial** (manifest, multi-period manifest, patch).  For every
state of the world and every query: if none of the calls the model does not look into
(`ManifestContext(...)`, `render_template`) raises something its caller does not catch
(`w.quiet`), the status is 200, 400, 404 or the injected code. -/
theorem handler_status_no_5xx_partial (C : DTCodec IsoClass) (tbl : List OptionRow)
    (dflt : Nat → Val IsoClass) (q : List (Bytes × Bytes)) (k : ManifestKind) (w : ManifestWorld)
    (hq : w.quiet = true) :
    manifestStatus k w ((calcOptions C tbl dflt q).map fun _ => ()) = 200 ∨
    manifestStatus k w ((calcOptions C tbl dflt q).map fun _ => ()) = 400 ∨
    manifestStatus k w ((calcOptions C tbl dflt q).map fun _ => ()) = 404 ∨
    (k = .single ∧
      w.injected = some (manifestStatus k w ((calcOptions C tbl dflt q).map fun _ => ()))) := by
  simp only [ManifestWorld.quiet, Bool.and_eq_true] at hq
  exact manifestStatus_exits k w _
    (P := fun st => st = 200 ∨ st = 400 ∨ st = 404 ∨ (k = .single ∧ w.injected = some st))
    (.inl rfl) (.inr (.inl rfl)) (.inr (.inr (.inl rfl)))
    (fun _ h => .inr (.inl (guarded_calc_error C tbl dflt q h)))
    (fun _ hk hc => .inr (.inr (.inr ⟨hk, hc⟩)))
    (fun _ he => absurd he (Call.not_raised hq.1))
    (fun _ he => absurd he (Call.not_raised hq.2))

/-- non-vacuity: a world that satisfies the hypothesis and answers 200 -/
example : (⟨true, true, true, true, true, false, .ok, true, none, .ok⟩ : ManifestWorld).quiet = true ∧
    manifestStatus .single ⟨true, true, true, true, true, false, .ok, true, none, .ok⟩ (.ok ()) = 200 := by
  decide

/-- the excluded point: when `render_template` raises (the `frameRateFraction` filter on
an empty video AdaptationSet did – a jinja `UndefinedError`), the status *is* 500 -/
example : manifestStatus .single ⟨true, true, true, true, true, false, .ok, true, none, .raised .templateError⟩
    (.ok ()) = 500 := by decide

/-- **media_status_no_5xx_partial** (init and media segments, single- and multi-period):
200, 206, 400, 404, 416 or the injected code. -/
theorem media_status_no_5xx_partial (C : DTCodec IsoClass) (tbl : List OptionRow)
    (dflt : Nat → Val IsoClass) (q : List (Bytes × Bytes)) (w : MediaWorld)
    (hq : w.quiet = true) (hrange : rangeStatusOk w.range = true) :
    mediaStatus w ((calcOptions C tbl dflt q).map fun _ => ()) ∈ [200, 206, 400, 404, 416] ∨
    w.injected = some (mediaStatus w ((calcOptions C tbl dflt q).map fun _ => ())) := by
  simp only [MediaWorld.quiet, Bool.and_eq_true] at hq
  exact mediaStatus_exits w _ (P := fun st => st ∈ [200, 206, 400, 404, 416] ∨ w.injected = some st)
    (.inl (by decide)) (.inl (by decide)) (.inl (by decide))
    (fun _ h => by cases guarded_calc_error C tbl dflt q h; exact .inl (by decide))
    (fun _ hc => .inr hc)
    (fun _ he => absurd he (Call.not_raised hq.1.1))
    (fun _ he => absurd he (Call.not_raised hq.1.2))
    (fun _ he => absurd he (Call.not_raised hq.2))
    (fun st h => .inl (by
      rw [h] at hrange
      simp only [rangeStatusOk, Bool.or_eq_true, beq_iff_eq] at hrange
      rcases hrange with (rfl | rfl) | rfl <;> decide))

example : (⟨true, true, true, false, true, false, true, none, .ok, .ok, .ok, .ok 206⟩ : MediaWorld).quiet = true ∧
    mediaStatus ⟨true, true, true, false, true, false, true, none, .ok, .ok, .ok, .ok 206⟩ (.ok ()) = 206 := by
  decide

/-- the excluded point: `load_fragment` / `encode` raising (a corrupt stored file, a value
that does not fit a box field) is a 500 -/
example : mediaStatus ⟨true, true, true, false, true, false, true, none, .ok, .raised .typeError, .ok, .ok 200⟩
    (.ok ()) = 500 := by decide

/-- **vod_outside_range_404.** VOD, `$Number$` or `$Time$`: a request whose segment number is
outside `[start_number, start_number + n − 1]` is answered 404 – whatever the rest of the
world looks like behind the lookup (no fragment is loaded), provided the request got as far
as the lookup and no error is injected. -/
theorem vod_outside_range_404 (sd sn n : Nat) (a : Addr) (w : MediaWorld)
    (hout : vodSegNum sd sn a < sn ∨ vodSegNum sd sn a > (n : Int) + sn - 1)
    (hw : w.found = true ∧ w.indexed = true ∧ w.timingRef = true ∧ w.encryptedWithoutDrm = false ∧
          w.knownContentType = true ∧ w.isInit = false ∧ w.numberOk = true ∧ w.injected = none)
    (hl : w.lookup = vodLookup sd sn n a) :
    mediaStatus w (.ok ()) = 404 := by
  obtain ⟨h1, h2, h3, h4, h5, h6, h7, h8⟩ := hw
  have hr : vodLookup sd sn n a = .refused := by
    unfold vodLookup
    simp only [hout, if_true]
  unfold mediaStatus
  simp [h1, h2, h3, h4, h5, h6, h7, h8, hl, hr, guarded]

/-- **vod_in_range_index.** …and a request that passes the gate indexes an existing media
segment: `1 ≤ mod_segment ≤ n`, so `representation.segments[mod_segment]` (the list has
`n + 1` entries, the init segment first) cannot raise `IndexError`. -/
theorem vod_in_range_index (sd sn n : Nat) (a : Addr) (h : vodLookup sd sn n a = .ok) :
    1 ≤ vodModSegment sd sn a ∧ vodModSegment sd sn a ≤ n ∧
    (sn : Int) ≤ vodSegNum sd sn a ∧ vodSegNum sd sn a ≤ (n : Int) + sn - 1 := by
  unfold vodLookup at h
  dsimp only at h
  split at h
  · cases h
  · split at h
    · cases h
    · omega

/-- bbb_v7 (10 segments of 960 ticks, start number 1): number 10 and time 8640 are served,
number 11 and time 9600 – exactly one past the end – are refused, as are 0 and 12 -/
example : vodLookup 960 1 10 (.number 10) = .ok ∧ vodLookup 960 1 10 (.time 8640) = .ok ∧
    vodLookup 960 1 10 (.number 11) = .refused ∧ vodLookup 960 1 10 (.time 9600) = .refused ∧
    vodLookup 960 1 10 (.number 0) = .refused ∧ vodLookup 960 1 10 (.number 12) = .refused := by decide

/-- **time_status.** `/time/<method>`: 200 or 400, unconditionally -/
theorem time_status (C : DTCodec IsoClass) (tbl : List OptionRow) (dflt : Nat → Val IsoClass)
    (q : List (Bytes × Bytes)) :
    timeStatus ((calcOptions C tbl dflt q).map fun _ => ()) = 200 ∨
    timeStatus ((calcOptions C tbl dflt q).map fun _ => ()) = 400 := by
  unfold timeStatus
  split
  · exact .inr (guarded_calc_error C tbl dflt q ‹_›)
  · exact .inl rfl

/-- **ntp_fields_fit_partial.** `/time/http-ntp`: when the drift-adjusted clock is not
before 1900 the seconds field is `⌊t⌋ mod 2³²` and both fields fit their 32 bits, so
`struct.pack('>II', …)` cannot fail – whatever the era (2036-02-07 and later included). -/
theorem ntp_fields_fit_partial (us : Int) (h : 0 ≤ us) :
    ∃ s f, ntpFields us = .ok (s, f) ∧ s < 4294967296 ∧ f < 4294967296 ∧
      (s : Int) = (us / 1000000) % 4294967296 := by
  -- `omega` reads `%`, not `Int.emod`
  have hm : ∀ a : Int, Int.emod a 4294967296 = a % 4294967296 := fun _ => rfl
  unfold ntpFields
  simp only [Int.tdiv_eq_ediv_of_nonneg h, hm]
  rw [Int.tdiv_eq_ediv_of_nonneg (by omega)]
  -- the `else` branch; its two `toNat`s are the witnesses
  exact ⟨_, _, if_neg (by omega), by omega, by omega, by omega⟩

/-- the hypothesis holds for every accepted `drift` (|drift| ≤ 100 years of 366 days) from
2000-03-17T00:00Z on (1900 + `MAX_TIME_SPAN`) -/
theorem ntp_clock_not_before_1900 (nowUs drift : Int) (hnow : ntpY2K * 1000000 ≤ nowUs)
    (hd : drift.natAbs ≤ maxTimeSpan.natAbs) : 0 ≤ nowUs - drift * 1000000 := by
  unfold ntpY2K at hnow
  unfold maxTimeSpan at hd
  omega

/-- non-vacuity: 2036-02-07T06:28:16Z, the first second of NTP era 1, is answered with
seconds = 0 … -/
example : ntpFields (4294967296 * 1000000 + 250000) = .ok (0, 1073741824) := by decide
/-- … and the excluded region: half a second before 1900 the fraction is negative and
`struct.pack` raises (an escaping `struct.error` is a 500) -/
example : ntpFields (-500000) = .error .structError := by decide

/-- **inject_only_addressed.** A synthetic response is only ever produced for a request
that is at a position the request's own options address (for its own media type). -/
theorem inject_only_addressed (r : Req) (st : Store) (code : Int) (h : (step r st).1 = some code) :
    ∃ pos, (code, pos) ∈ r.spec.errsFor r.usage ∧ hits r pos = true := by
  rw [step_eq] at h
  exact checkLoop_some h

/-- **inject_isolated (positions).** A request that is at none of the addressed positions
– in particular one without the option – gets no synthetic response and leaves every
counter as it was. -/
theorem inject_isolated_position (r : Req) (st : Store)
    (h : ∀ e ∈ r.spec.errsFor r.usage, hits r e.2 = false) : step r st = (none, st) := by
  refine Prod.ext ?_ (funext fun u => funext fun c => step_frame r st u c fun _ e he _ hh => ?_)
  · cases hs : (step r st).1 with
    | none => rfl
    | some code =>
      obtain ⟨pos, hp, hh⟩ := inject_only_addressed r st code hs
      rw [h _ hp] at hh
      cases hh
  · rw [h e he] at hh
    cases hh

/-- **inject_isolated (media types).** A request never changes a counter of another media
type (`aerr` does not disturb video requests and vice versa). -/
theorem inject_isolated_usage (r : Req) (st : Store) (u : Usage) (c : Int) (h : u ≠ r.usage) :
    (step r st).2 u c = st u c :=
  step_frame r st u c fun hu => absurd hu h

/-- **inject_isolated (codes).** …nor the counter of a code none of its hit entries has
with `code ≥ 500` and `failures` given. -/
theorem inject_isolated_code (r : Req) (st : Store) (c : Int)
    (h : ∀ e ∈ r.spec.errsFor r.usage, e.1 = c → hits r e.2 = true → (c < 500 ∨ r.spec.failures = none)) :
    (step r st).2 r.usage c = st r.usage c :=
  step_frame r st r.usage c fun _ => h

/-- the two kinds of request `inject_exact` allows in between are foreign: other media
types, and requests (of any spec) that are not at a position they address with this code -/
theorem foreign_other_usage (u : Usage) (c : Int) (r : Req) (h : r.usage ≠ u) : Foreign u c r :=
  fun st => inject_isolated_usage r st u c (Ne.symm h)

theorem foreign_not_hit (c : Int) (r : Req)
    (h : ∀ e ∈ r.spec.errsFor r.usage, e.1 = c → hits r e.2 = false) : Foreign r.usage c r :=
  fun st => inject_isolated_code r st c fun e he hc hh => by rw [h e he hc] at hh; cases hh

/-- a media request addressed by `$Time$` (no segment number) is never answered with a
synthetic error – the check compares positions with `seg_num`, which is `None`
(ledger entry `inject-time-addressed-media`) -/
theorem inject_time_addressed_never (r : Req) (st : Store) (hu : r.usage ≠ .manifest)
    (hs : r.seg = none) : step r st = (none, st) := by
  apply inject_isolated_position
  intro e _
  unfold hits
  cases hu' : r.usage with
  | manifest => exact absurd hu' hu
  | _ => cases e.2 <;> simp [mediaHit, hs]

/-- a code below 500, or no `failures` option: every request at the position is answered
with the code, and no counter is touched -/
theorem inject_always (u : Usage) (hit : Pos → Bool) (c : Int) (pos : Pos) (f : Option Int)
    (h : c < 500 ∨ f = none) (hh : hit pos = true) (rest : List (Int × Pos)) (st : Store) :
    checkLoop u hit f ((c, pos) :: rest) st = (some c, st) := by
  exact checkLoop_cons_cases u hit f c pos rest st (P := (· = (some c, st)))
    (fun h' => by rw [hh] at h'; cases h') (fun _ _ => rfl)
    (fun _ _ hc hf _ => (counted_not_plain hc hf h).elim)
    (fun _ _ hc hf _ => (counted_not_plain hc hf h).elim)

/-- **inject_exact.** One addressed position `code=pos` with `code ≥ 500` and
`failures = N`, one client session starting with a fresh cookie, *any* sequence of
requests in which every other request leaves the counter `(media type, code)` alone:
the request with index `i`, if it is for the addressed position, is answered with the
synthetic code iff `k mod (N+1) < N`, where `k` is the number of earlier requests for
that position; otherwise it gets no synthetic answer.  So exactly `N` failures precede
each success, and the pattern repeats for as long as the client keeps asking (it is not
"`N` failures in total"). -/
theorem inject_exact (u : Usage) (c : Int) (pos : Pos) (N : Nat) (hc : c ≥ 500) (rs : List Req)
    (hF : ∀ r ∈ rs, isTarget u c pos N r = false → Foreign u c r)
    (i : Nat) (r : Req) (hi : rs[i]? = some r) (ht : isTarget u c pos N r = true) :
    (run rs Store.empty)[i]? = some
      (bif (hits r pos && fails N (countHits u c pos N (rs.take i))) then some c else none) := by
  rw [← Nat.zero_add (countHits u c pos N (rs.take i))]
  exact run_target u c pos N hc rs Store.empty 0 (Nat.zero_mod _).symm hF i r hi ht

/-- non-vacuity and the shape of the pattern: `verr=503=7&failures=2`, eight requests for
segment 7 with two for other segments and an audio request in between -/
example :
    let q : Spec := { verr := [(503, .num 7)], failures := some 2 }
    let v (n : Int) : Req := { usage := .video, spec := q, seg := some n }
    let a (n : Int) : Req := { usage := .audio, spec := q, seg := some n }
    run [v 7, v 7, v 6, v 7, a 7, v 7, v 7, v 8, v 7, v 7, v 7] Store.empty =
      [some 503, some 503, none, none, none, some 503, some 503, none, none, some 503, some 503] := by
  decide

theorem inject_negative_failures (u : Usage) (hit : Pos → Bool) (c : Int) (pos : Pos) (n : Int)
    (hn : n < 0) (hc : c ≥ 500) (st : Store) :
    (checkLoop u hit (some n) [(c, pos)] st).1 = none :=
  checkLoop_cons_cases u hit (some n) c pos [] st (P := (·.1 = none)) (fun _ => rfl)
    (fun _ h => (counted_not_plain hc rfl h).elim) (fun _ _ _ _ _ => rfl)
    (fun m _ _ hm h => by cases hm; omega)

/-- **inject_time_segment.** A position given as a time `T` (seconds after
`availabilityStartTime`, `T ≥ 0`) is translated for the media URLs to the number
`⌊T·timescale / segment_duration⌋`: the zero-based index of the segment that contains `T`.
The segment *numbered* so is `start_number` places earlier (ledger entry
`inject-time-omits-start-number`). -/
theorem inject_time_segment (ts sd : Nat) (hsd : 0 < sd) (T : Nat) :
    0 ≤ dropSeg ts sd T ∧
    (sd : Int) * dropSeg ts sd T ≤ ts * T ∧ (ts * T : Int) < sd * (dropSeg ts sd T + 1) := by
  have h0 : (0 : Int) ≤ ts * T := Int.mul_nonneg (Int.natCast_nonneg _) (Int.natCast_nonneg _)
  have hsd' : (0 : Int) < sd := Int.natCast_pos.mpr hsd
  rw [dropSeg, Int.tdiv_eq_ediv_of_nonneg h0]
  exact ⟨Int.ediv_nonneg h0 (Int.le_of_lt hsd'), Int.mul_ediv_self_le (Int.ne_of_gt hsd'),
    Int.lt_mul_ediv_self_add hsd'⟩

/-- 4 s segments at timescale 1000, start number 1: the time 10 s lies in the segment
numbered 3 (`[8 s, 12 s)`), the translated position is 2 -/
example : dropSeg 1000 4000 10 = 2 := by decide

/-- **loops_terminate (get_segment_index).** With a positive reference duration `R` the
search loop of `Representation.get_segment_index` ends within `n + 2` iterations for
every target time (one pass over the stored segments, one wrap). -/
theorem loops_terminate_segment_index (durs : List Nat) (R tc : Nat) (hR : 0 < R) :
    ∃ m s o, getSegmentIndex durs R tc (durs.length + 2) = .found m s o :=
  getSegmentIndex_found durs R tc hR (Nat.le_refl _)

/-- the excluded value: with `R = 0` the code stops at `assert ref_duration_tc > 0` … -/
example : getSegmentIndex [10, 10] 0 100 1000 = .assertionError := by decide
/-- … and without the assertion the loop would never leave (here: 100 iterations) -/
example : gsiLoop [10, 10] 0 100 100 0 0 0 = none := by decide +kernel
/-- … nor with any other fuel -/
theorem gsi_zero_never_terminates (fuel : Nat) : gsiLoop [10, 10] 0 100 fuel 0 0 0 = none := by
  -- the loop alternates between the states `(0, 0, 0)` and `(1, 10, 0)`
  suffices h : gsiLoop [10, 10] 0 100 fuel 0 0 0 = none ∧ gsiLoop [10, 10] 0 100 fuel 1 10 0 = none
    from h.1
  induction fuel with
  | zero => exact ⟨rfl, rfl⟩
  | succ f ih => exact ⟨ih.2, ih.1⟩

/-- **loops_terminate (event scheduling).** `create_emsg_boxes` never runs out of its
fuel `(seg_end − start)/interval + 2`: an interval below 1 is refused before the loop
(a993bc6, and already by the option parser), more than 10000 events per segment as well
(8c4223f). -/
theorem loops_terminate_events (s : DashLive.Events.Sched) (repTs : Int) (g : DashLive.Events.Seg) :
    DashLive.Events.createEmsg s repTs g ≠ .outOfFuel :=
  DashLive.Events.emsg_terminates s repTs g

/-- the excluded value: the loop itself with `interval = 0` and an unbounded schedule
does not end (here: 100 iterations) -/
example : DashLive.Events.emsgLoop ⟨0, 0, 0, 200, 100, 0, true⟩ 0 400 100 0 0 = none := by decide +kernel

/-- **loops_terminate (live periods).** `create_all_live_periods` leaves its `while`
loop within `liveFuel` iterations when the total duration of the periods is positive. -/
theorem loops_terminate_periods (ps : List DashLive.Periods.PeriodDef) (E F nl : Nat)
    (hD : 0 < DashLive.Periods.totalDuration ps) :
    ∃ l, DashLive.Periods.livePeriodsFrom ps E F nl = some l :=
  DashLive.Periods.live_periods_terminate ps E F nl hD

/-- the excluded value: periods of zero total duration – the loop makes no progress
(here: 100 iterations).  Since a1efbe1 such a stream is refused with 404 before. -/
example : DashLive.Periods.liveLoop [⟨['p'], 0⟩] 100 0 100 0 0 0 = none := by decide +kernel

/-- a loop never starts more iterations than its count, and – when every iteration reads at
least `k > 0` bytes through a read that raises at the end of the input – no more than
`rem / k + 1` -/
theorem countLoop_le (k : Nat) : ∀ (count rem : Nat),
    countLoop k count rem ≤ count ∧ (0 < k → countLoop k count rem ≤ rem / k + 1) := by
  intro count
  induction count with
  | zero => intro rem; simp [countLoop]
  | succ n ih =>
    intro rem
    unfold countLoop
    split
    · exact ⟨by omega, fun _ => Nat.le_add_left 1 _⟩
    · obtain ⟨h1, h2⟩ := ih (rem - k)
      refine ⟨by omega, fun hk => ?_⟩
      have := h2 hk
      rw [Nat.div_eq_sub_div hk (by omega)]
      omega

/-- **loops_terminate (parser, per loop).** For a loop described by a `ParserLoop` row, any
value of its count field and any input length: the number of iterations is at most the bound
the row supports – the constant cap, the width of the count field, or `len / minBytes + 1`. -/
theorem parser_loop_iterations (l : ParserLoop) (count len b : Nat) (hc : count ≤ l.countMax)
    (hb : l.bound len = some b) : l.run count len ≤ b := by
  obtain ⟨h1, h2⟩ := countLoop_le l.minBytes count len
  unfold ParserLoop.bound at hb
  unfold ParserLoop.run
  cases hcap : l.cap with
  | some c =>
    rw [hcap] at hb
    cases hb
    dsimp only
    split <;> omega
  | none =>
    rw [hcap] at hb
    dsimp only at hb ⊢
    split at hb
    · cases hb; omega
    · split at hb
      · cases hb; exact h2 ‹_›
      · cases hb

/-- **loops_terminate (parser, the source).** Every `for … in range(count)` loop of the `parse`
functions of `dashlive/mpeg/mp4.py` (table regenerated from the source on every run) has such a
bound: none is limited only by a 32-bit count field.  (Removing the cap of the `trun` or `senc`
loop, whose samples can take no space in the box, breaks this obligation.) -/
theorem parser_loops_bounded :
    (DashLive.Gen.ParserLoops.table.all fun l => (l.bound 0).isSome) = true := by
  decide

/-- the two loops whose body may read nothing are capped by `MAX_SAMPLE_COUNT`, which exists -/
theorem parser_zero_size_loops_capped :
    DashLive.Gen.ParserLoops.maxSampleCount.isSome = true ∧
    ((DashLive.Gen.ParserLoops.table.filter fun l => l.minBytes == 0 && decide (l.countMax > 65535)).all
      fun l => l.cap.isSome && l.cap == DashLive.Gen.ParserLoops.maxSampleCount) = true := by
  decide

/-- `FieldReader.get(<n bytes>)` raises on a short read – what makes byte-sized reads count -/
theorem parser_short_read_raises : DashLive.Gen.ParserLoops.shortReadRaises = true := by decide

/-- the excluded shape: a loop over a 32-bit count whose body reads nothing and that has no cap
runs as often as the count says (here 50 of 50 on an empty input) … -/
example : (⟨"X", "parse", 0, "n", none, 4294967295, 0⟩ : ParserLoop).bound 0 = none ∧
    (⟨"X", "parse", 0, "n", none, 4294967295, 0⟩ : ParserLoop).run 50 0 = 50 := by decide
/-- … whereas the capped one refuses it and a reading one stops at the end of the input -/
example : (⟨"X", "parse", 0, "n", some 100, 4294967295, 0⟩ : ParserLoop).run 1000 0 = 0 ∧
    (⟨"X", "parse", 0, "n", none, 4294967295, 4⟩ : ParserLoop).run 50 10 = 3 := by decide

end DashLive.C16
