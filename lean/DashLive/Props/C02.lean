import DashLive.Lemmas.Timeline
/-!
# C02 – served segments carry exactly the advertised time, number and duration

Model: `Model/Segments.lean`.  The theorems are read off two facts: `index_startG` (under H1
`StartsInsideLoop` and H2 `PositiveDurs` the search for `$Time$ = startG g` returns position `g`) and
`expand_timelineLive` (the expanded live timeline is a slice of the global sequence).
-/
namespace DashLive.Segments

/-- **source position = presentation time modulo the reference duration.**  For every
position `g` (any loop count), the decode position delivered from the stored file,
`P_{g % n}`, equals the presentation time `startG g` modulo the track's reference
duration `R`, and the loop count is `startG g / R`. -/
theorem C02_alignment (durs : List Nat) (R g : Nat) (hn : 0 < durs.length)
    (h1 : StartsInsideLoop durs R) :
    startG durs R g % R = prefixSum durs (g % durs.length) ∧
    startG durs R g / R = g / durs.length :=
  ⟨(startG_div_mod durs R g hn h1).2, (startG_div_mod durs R g hn h1).1⟩

/-- **`$Time$` resolves to the advertised segment.**  For *every* position `g` of the
endless presentation (any number of loops), requesting `$Time$ = startG g` – the time
the timeline advertises for it, see `timeline_is_slice` – makes `get_segment_index`
select exactly stored segment `g % n`, with loop origin `(g / n)·R` and segment start
`startG g`. -/
theorem C02_time_resolves (durs : List Nat) (R g : Nat) (hn : 0 < durs.length)
    (h1 : StartsInsideLoop durs R) (h2 : PositiveDurs durs) :
    getSegmentIndex durs R (startG durs R g)
      = (g % durs.length + 1, startG durs R g, g / durs.length * R) := by
  rw [getSegmentIndex_eq durs R _ hn, index_startG durs R g hn h1 h2]

/-- **decode time of the served segment** (media_requests.py:186-208).  When the file
carries `tfdt` boxes whose values are `st + P_m` (what indexing records) the served
`baseMediaDecodeTime` for `$Time$ = startG g` is `st + startG g`; when the file has no
`tfdt` the synthesised one gives exactly `startG g`. -/
theorem C02_time_tfdt (durs : List Nat) (R g st : Nat) (hn : 0 < durs.length)
    (h1 : StartsInsideLoop durs R) (h2 : PositiveDurs durs) :
    let r := getSegmentIndex durs R (startG durs R g)
    servedTfdt durs (some fun k => st + prefixSum durs k) r.1 r.2.2 = st + startG durs R g ∧
    servedTfdt durs none r.1 r.2.2 = startG durs R g := by
  simp only [C02_time_resolves durs R g hn h1 h2, servedTfdt, Nat.add_sub_cancel]
  unfold startG
  omega

/-- for files whose first decode time is 0 (all upstream fixtures) the served decode time
*is* the requested `$Time$` -/
theorem C02_time_tfdt_exact (durs : List Nat) (R g : Nat) (hn : 0 < durs.length)
    (h1 : StartsInsideLoop durs R) (h2 : PositiveDurs durs) :
    let r := getSegmentIndex durs R (startG durs R g)
    servedTfdt durs (some fun k => 0 + prefixSum durs k) r.1 r.2.2 = startG durs R g := by
  have := (C02_time_tfdt durs R g 0 hn h1 h2).1
  simpa using this

/-- **advertised duration vs stored duration**: the `S@d` the timeline advertises for
position `g` equals the stored segment's total sample duration except on the last
segment of a loop, where it differs by exactly `drift = R − Σ durs` (finding D10). -/
theorem C02_duration_partial (durs : List Nat) (R g : Nat) :
    (g % durs.length + 1 ≠ durs.length ∨ R = durs.sum) → durG' durs R g = durG durs g := by
  intro h
  rcases h with h | h <;> simp [durG', h]

/-- on the last segment of a loop the advertised duration exceeds the stored one by exactly the drift -/
theorem C02_duration_last (durs : List Nat) (R g : Nat) (h : g % durs.length + 1 = durs.length) :
    durG' durs R g = durG durs g + ((R : Int) - durs.sum) := by
  unfold durG'; simp [h]

/-- **the live timeline is a slice of the global sequence**: whatever the clock
(`tcF` = timecode of `firstAvailableTime`), buffer depth and fuel, the DASH
expansion of the `<S>` list `generateSegmentTimeline` produces is
`[(startG g, durG' g) | g₀ ≤ g < g₀ + k]` with `g₀ = index tcF`. -/
theorem timeline_is_slice (durs : List Nat) (R ts tcF tsbd fuel : Nat) (hn : 0 < durs.length)
    (hpos : AdvPositive durs R) :
    ∃ k, expand (timelineLive durs R ts tcF tsbd fuel) = sliceG durs R (index durs R tcF) k :=
  ⟨_, expand_timelineLive durs R ts tcF tsbd fuel hn hpos⟩

/-- same for the VOD timeline: it starts at position 0 (reference = the track itself) -/
theorem timeline_vod_is_slice (durs : List Nat) (fuel : Nat) (hn : 0 < durs.length)
    (hpos : ∀ m, m < durs.length → 0 < advDur durs 0 m) :
    ∃ k, expand (timelineVod durs fuel) = sliceG durs durs.sum 0 k := by
  have h0 : startG durs durs.sum 0 = 0 := by simp [startG, prefixSum_zero]
  have := rawLoop_slice durs durs.sum (durs.sum : Int) hn fuel 0 0
  rw [Int.sub_self, Nat.zero_mod, h0] at this
  exact ⟨_, (tlLoop_expand durs 0 0 _ hpos _ _ hn).trans this⟩

/-- **gapless across any number of loops**: consecutive entries of the expanded live
timeline satisfy `t + d = next t`, and entry `i` is position `g₀ + i` of the global
sequence – so the `t` values are exactly the `$Time$` values `C02_time_resolves` is
about. -/
theorem C02_gapless (durs : List Nat) (R ts tcF tsbd fuel : Nat) (hn : 0 < durs.length)
    (hpos : AdvPositive durs R) :
    let l := expand (timelineLive durs R ts tcF tsbd fuel)
    (∀ i (h : i + 1 < l.length), (l[i]'(by omega)).1 + (l[i]'(by omega)).2 = (l[i + 1]'h).1) ∧
    (∀ i (h : i < l.length),
      l[i] = ((startG durs R (index durs R tcF + i) : Int), durG' durs R (index durs R tcF + i))) := by
  refine ⟨?_, timelineLive_get durs R ts tcF tsbd fuel hn hpos⟩
  simp only [expand_timelineLive durs R ts tcF tsbd fuel hn hpos]
  intro i h
  rw [sliceG_get, sliceG_get, ← Nat.add_assoc]
  exact (startG_succ durs R _ hn).symm

/-- **`$Number$ = N`**: the handler's arithmetic maps `N` to timecode `(N − sn)·sd`
and the sequence number written into the segment is `N` itself
(media_requests.py:212 uses the value returned here). -/
theorem C02_number_seqnum (conv : Nat → Int) (durs : List Nat) (ts sd sn R : Nat) (w : Win)
    (N : Int) (m o : Nat) (k : Int)
    (h : liveIndex conv durs ts sd sn R w (.number N) = .ok m o k) :
    k = N ∧ 0 ≤ (N - sn) * sd ∧
      (m, o) = ((getSegmentIndex durs R ((N - sn) * sd).toNat).1,
                (getSegmentIndex durs R ((N - sn) * sd).toNat).2.2) := by
  rw [liveIndex_number] at h
  split at h
  · cases h
  · rename_i hc
    injection h with h1 h2 h3
    exact ⟨h3.symm, Int.not_lt.mp (not_or.mp hc).1, by rw [h1, h2]⟩

/-- the 32-bit `mfhd.sequence_number` field carries exactly the requested number whenever it can
(`0 ≤ N < 2³²`; beyond that – a live stream whose start lies before about the year 1480 – the
field holds `N mod 2³²`) -/
theorem C02_seqnum_field (N : Int) :
    (0 ≤ N → N < 4294967296 → servedSeq N = N) ∧ 0 ≤ servedSeq N ∧ servedSeq N < 4294967296 ∧
      (N - servedSeq N) % 4294967296 = 0 := by
  unfold servedSeq
  refine ⟨fun h0 h1 => Int.emod_eq_of_lt h0 h1, by omega, by omega, by omega⟩

/-- **decode time for `$Number$`**: the selected position's start is within half a
segment of the requested timecode: `tc ≤ start + ⌊d/2⌋`; and unless the walk
wrapped into the next loop (only possible when `tc` lies in the last
half-segment-plus-drift of a loop) `start < tc + ⌈d_prev/2⌉`. -/
theorem C02_number_bounds (durs : List Nat) (R tc : Nat) (hR : 0 < R) (hn : 0 < durs.length) :
    let g := index durs R tc
    tc ≤ startG durs R g + durG durs g / 2 ∧
    (g % durs.length ≠ 0 →
      startG durs R g + durG durs (g - 1) / 2 < tc + durG durs (g - 1)) ∧
    (g % durs.length = 0 →
      startG durs R g = tc / R * R ∨
      (startG durs R g = (tc / R + 1) * R ∧
        startG durs R (g - 1) + durG durs (g - 1) / 2 < tc)) := by
  obtain ⟨a, b, c, d⟩ := index_spec durs R tc hR hn
  dsimp only
  generalize index durs R tc = g at a b c d
  -- unless the search stayed where it began, it passed over `g - 1`
  have hpred : tc / R * durs.length < g → before durs R tc (g - 1) ∧ g - 1 + 1 = g :=
    fun h => ⟨d (g - 1) (by omega) (by omega), by omega⟩
  refine ⟨by unfold before at c; omega, fun hm => ?_, fun hm => ?_⟩
  · obtain ⟨hb, hg⟩ := hpred (Nat.lt_of_le_of_ne a fun he => hm (he ▸ Nat.mul_mod_left _ _))
    have hprev : (g - 1) % durs.length + 1 < durs.length := by
      refine Nat.lt_of_le_of_ne (Nat.mod_lt (g - 1) hn) fun h => hm ?_
      rw [← hg]; exact (succ_mod_of_eq hn h).1
    have := startG_succ_of_lt R (g - 1) hprev
    rw [hg] at this
    unfold before at hb
    omega
  · rcases Nat.eq_or_lt_of_le a with rfl | hlt
    · exact Or.inl (startG_mul durs R _ hn)
    · obtain ⟨hb, hg⟩ := hpred hlt
      have hlast : (g - 1) % durs.length + 1 = durs.length := by
        refine Nat.le_antisymm (Nat.mod_lt (g - 1) hn) (Nat.le_of_not_lt fun h => ?_)
        have := (succ_mod_of_lt h).1
        rw [hg] at this; omega
      have hL : (g - 1) / durs.length = tc / R := Nat.div_eq_of_lt_le (by omega) (by omega)
      have := startG_succ_of_eq R (g - 1) hn hlast
      rw [hg, hL] at this
      exact Or.inr ⟨this, hb⟩

/-- **cross-track alignment bound.**  `R = ⌊refDur·ts/refTs⌋` loses less than one tick
of the track per loop: after `L` loops, `L` reference durations (in units of
`1/(ts·refTs)` s) lie within `L` ticks of `L·R`.  So two tracks of one stream stay
aligned to within one tick of each track *per loop* – the bound grows with the
loop count and is the honest strength of the alignment claim. -/
theorem C02_alignment_drift (refDur refTs ts L : Nat) (hTs : 0 < refTs) :
    let R := refDuration refDur refTs ts
    L * R * refTs ≤ L * (refDur * ts) ∧ L * (refDur * ts) < L * R * refTs + L * refTs + 1 := by
  simp only [refDuration]
  have h1 := Nat.div_add_mod (refDur * ts) refTs
  have h2 := Nat.mod_lt (refDur * ts) hTs
  have e : L * (refDur * ts / refTs) * refTs = L * (refTs * (refDur * ts / refTs)) := by
    rw [Nat.mul_assoc, Nat.mul_comm (refDur * ts / refTs) refTs]
  rw [e]
  have h3 : L * (refDur * ts) = L * (refTs * (refDur * ts / refTs)) + L * (refDur * ts % refTs) := by
    rw [← Nat.mul_add, h1]
  have h4 : L * (refDur * ts % refTs) ≤ L * refTs := Nat.mul_le_mul_left L (by omega)
  omega

/-- bbb-like video track: 240 Hz, 4-second segments, reference = itself -/
example : StartsInsideLoop [960, 960, 960, 960] 3840 ∧ PositiveDurs [960, 960, 960, 960] := by
  unfold StartsInsideLoop PositiveDurs; decide

example : AdvPositive [100, 90, 110, 95] 400 := by unfold AdvPositive; decide

/-- an irregular audio track whose reference is a longer video track (positive drift) -/
example : getSegmentIndex [100, 90, 110, 95] 400 (startG [100, 90, 110, 95] 400 7)
    = (4, 700, 400) := by decide

/-- D10 (i): last segment of a loop is advertised with `d + drift`, served with `d` -/
example : durG' [100, 90, 110, 95] 400 3 = 100 ∧ durG [100, 90, 110, 95] 3 = 95 := by decide

/-- D10 (ii): a file whose first decode time is not 0 is served with `tfdt = st + t ≠ t` -/
example : servedTfdt [100, 90, 110, 95] (some fun k => 1000 + prefixSum [100, 90, 110, 95] k) 2 400
    = 1000 + 500 := by decide

/-- ¬H1 (a segment *starts* beyond the reference duration): `$Time$` of that segment
resolves to a different one – here position 3 (stored segment 4, start 300) of a track
whose reference loop is only 250 ticks long is served from stored segment 1 of the next loop. -/
example : startG [100, 100, 100, 100] 250 3 = 300 ∧
    getSegmentIndex [100, 100, 100, 100] 250 300 = (1, 250, 250) := by decide

end DashLive.Segments
