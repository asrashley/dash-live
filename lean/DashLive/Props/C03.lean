import DashLive.Lemmas.SegmentRewrite
/-!
# C03 – rewritten media segments keep their payload and point at it correctly

Quantification: every stored segment layout `s : Seg` – any top-level boxes in
front of / behind one `moof mdat` pair (styp, sidx, emsg, free … in any order),
any children of the moof around the traf, **any order and any number of
verbatim children in the traf**, tfhd with or without explicit base and with
any optional fields, tfdt present (32/64 bit) or absent, trun with any flags,
sample table and data offset, saio of either version, senc with or without the
override header and any entry sizes – and every option vector `o : Opts`: any
new decode time (incl. the 32→64-bit growth), any list of inserted emsg sizes,
any number of PIFF clones, encrypted or not, `bugs=saio` or not.

Hypothesis where needed: `shapeOk s` – what `Representation.load` indexes: one
tfhd, one trun, at most one tfdt / saio / senc, no stored PIFF clone typed as
such, a senc has ≥ 1 entry and a saiz peer.
-/
namespace DashLive.SegmentRewrite

/-- **Sizes nest exactly.**  The top-level boxes tile the response body, the moof's
children tile the moof, the traf's children tile the traf (Σ children = parent at
every level, positions contiguous), the mdat follows the moof directly, and every
traf child has exactly the size its final field values imply – for every layout
and option vector, without any hypothesis. -/
theorem rewrite_wellformed (o : Opts) (s : Seg) :
    Chain 0 (rewrite o s).top (rewrite o s).total ∧
    (⟨"moof", (rewrite o s).moofPos, (rewrite o s).moofSize⟩ : Placed) ∈ (rewrite o s).top ∧
    (⟨"mdat", (rewrite o s).moofPos + (rewrite o s).moofSize, (rewrite o s).mdatSize⟩ : Placed)
      ∈ (rewrite o s).top ∧
    Chain ((rewrite o s).moofPos + 8) (rewrite o s).moofKids
      ((rewrite o s).moofPos + (rewrite o s).moofSize) ∧
    (⟨"traf", (rewrite o s).trafPos, (rewrite o s).trafSize⟩ : Placed) ∈ (rewrite o s).moofKids ∧
    Chain ((rewrite o s).trafPos + 8) (rewrite o s).trafKids
      ((rewrite o s).trafPos + (rewrite o s).trafSize) ∧
    (rewrite o s).trafKids = place ((rewrite o s).trafPos + 8) (tboxes (rewrite o s).traf) := by
  obtain ⟨post, htop⟩ := rewrite_top o s
  obtain ⟨hm, ht⟩ := e_span o s
  refine ⟨chain_place _ _, ?_, ?_, ?_, ?_, ?_, rfl⟩
  · rw [htop, List.append_assoc]
    exact mem_place 0 (ePre o s) _ "moof" _
  · have := mem_place 0 (ePre o s ++ [("moof", eMoofEnd o s - eMoofPos o s)]) post "mdat"
      (s.mdatHdr + s.payload.length)
    rw [tellAfter_append, List.append_assoc] at this
    rw [htop, List.append_assoc]
    exact this
  · have := chain_place (eMoofPos o s + 8)
      (opqs s.moofPre ++ [("traf", eTrafEnd o s - eTrafPos o s)] ++ opqs s.moofPost)
    rw [tellAfter_append, tellAfter_append, ← eTrafPos,
      show tellAfter (eTrafPos o s) [("traf", eTrafEnd o s - eTrafPos o s)] = eTrafEnd o s from ht]
      at this
    rw [rewrite_moofPos, rewrite_moofSize, hm]
    exact this
  · rw [rewrite_moofKids, List.append_assoc]
    exact mem_place _ _ _ "traf" _
  · rw [rewrite_trafKids, rewrite_trafPos, rewrite_trafSize, ht]
    exact chain_place _ _

/-- **The mdat payload is the stored payload**, it starts right after the mdat
header, the mdat box keeps its size and ends with the payload.  (That the mdat
directly follows the moof is part of `rewrite_wellformed`.) -/
theorem rewrite_mdat_identical (o : Opts) (s : Seg) :
    (rewrite o s).payload = s.payload ∧
    (rewrite o s).payloadStart = (rewrite o s).mdatPos + s.mdatHdr ∧
    (rewrite o s).mdatSize = s.mdatHdr + s.payload.length ∧
    (rewrite o s).payloadStart + (rewrite o s).payload.length
      = (rewrite o s).mdatPos + (rewrite o s).mdatSize := by
  refine ⟨rfl, rfl, rfl, ?_⟩
  rw [rewrite_payloadStart, rewrite_mdatPos, rewrite_mdatSize]
  exact Nat.add_assoc ..

/-- **The trun addresses the payload.**  The base the served tfhd defines is the
position of the served moof, the trun carries a data_offset field, `base +
data_offset` is the first payload byte, and the sample table (hence Σ sample
sizes) is the stored one – whatever base / data_offset the stored segment had. -/
theorem rewrite_trun_points (o : Opts) (s : Seg) (h : shapeOk s = true) :
    (rewrite o s).base = (rewrite o s).moofPos ∧
    trunDop (rewrite o s).traf = true ∧
    ((rewrite o s).base : Int) + trunOffset (rewrite o s).traf = ((rewrite o s).payloadStart : Int) ∧
    trunSizes (rewrite o s).traf = trunSizes s.traf :=
  ⟨rfl, rewrite_trunDop o s (shape_trun s h), rewrite_trunOffset o s (shape_trun s h),
    congrArg (·.getD []) (firstSome_congr (stable_trunSizes.filterMap_rewrite o s))⟩

/-- Σ sample sizes = payload length is preserved -/
theorem rewrite_sizes_sum (o : Opts) (s : Seg) (h : shapeOk s = true)
    (hin : (trunSizes s.traf).sum = s.payload.length) :
    (trunSizes (rewrite o s).traf).sum = (rewrite o s).payload.length := by
  rw [(rewrite_trun_points o s h).2.2.2]
  exact hin

/-- the first senc sample entry of the served segment: position of the senc box
in the traf + the offset of its first entry -/
def sencEntryPos (r : Out) : Nat := r.trafPos + 8 + offsetOf isSenc r.traf + sencRel r.traf

theorem sencEntryPos_rewrite (o : Opts) (s : Seg) : sencEntryPos (rewrite o s) =
    eTrafPos o s + 8 + offsetOf isSenc (eT o s) + sencRel (eT o s) := by
  rw [sencEntryPos, rewrite_trafPos, offsetOf_isSenc_rewrite, sencRel_rewrite]

/-- **The saio addresses the first senc sample entry** unless `bugs=saio`: for an
encrypted segment (senc and saio present, the stored saio has the one entry a
single-run fragment has) the served saio has exactly one offset `w` with
`base + w` = position of the first senc sample entry, and that senc box is a
child of the served traf at the position used. -/
theorem rewrite_saio_points (o : Opts) (s : Seg)
    (hbug : o.bugSaio = false) (hsenc : hasSenc s.traf = true)
    (x0 : Nat) (hsaio : saioOffsets s.traf = some [x0]) :
    ∃ w, saioOffsets (rewrite o s).traf = some [w] ∧
      (rewrite o s).base + w = sencEntryPos (rewrite o s) ∧
      ∃ b, b ∈ (rewrite o s).trafKids ∧ b.typ = "senc" ∧
        b.pos + sencRel (rewrite o s).traf = sencEntryPos (rewrite o s) := by
  obtain ⟨x, hx⟩ := rewrite_saioOffsets o s x0 hsaio
  rw [hsenc, hbug] at hx
  refine ⟨eWant o s, hx, ?_, ?_⟩
  · rw [sencEntryPos_rewrite, rewrite_base, eWant_spec]
  · obtain ⟨y, -, hq, hm⟩ :=
      mem_place_find? isSenc (eTrafPos o s + 8) ((hasSenc_trafEdited o s.traf).trans hsenc)
    rw [← eT, ← rewrite_trafKids] at hm
    refine ⟨_, hm, ?_, ?_⟩
    · cases y <;> cases hq
      rfl
    · rw [sencEntryPos_rewrite, sencRel_rewrite]

/-- **senc and trun list the same samples as stored**: the sample table of the
trun and the entry list of the senc are the stored ones (so equal counts are
preserved), and every PIFF clone in the served traf carries exactly the senc's
entries. -/
theorem rewrite_senc_trun_counts (o : Opts) (s : Seg) (h : shapeOk s = true) :
    trunSizes (rewrite o s).traf = trunSizes s.traf ∧
    sencEntries (rewrite o s).traf = sencEntries s.traf ∧
    (∀ ov e, TBox.piff ov e ∈ (rewrite o s).traf → sencEntries s.traf = some e) := by
  refine ⟨(rewrite_trun_points o s h).2.2.2, firstSome_congr (stable_sencEntries.filterMap_rewrite o s), ?_⟩
  intro ov e hm
  rw [sencEntries_firstSenc,
    piffs_rewrite o s (shape_nopiff s h) (ov, e) (List.mem_filterMap.mpr ⟨_, hm, rfl⟩)]
  rfl

/-- **A stale saio offset can only come from `bugs=saio`** (contrapositive of
`rewrite_saio_points`). -/
theorem rewrite_saio_stale_only_with_bug (o : Opts) (s : Seg)
    (hsenc : hasSenc s.traf = true) (x0 : Nat) (hsaio : saioOffsets s.traf = some [x0])
    (hstale : ¬ ∃ w, saioOffsets (rewrite o s).traf = some [w] ∧
      (rewrite o s).base + w = sencEntryPos (rewrite o s)) :
    o.bugSaio = true := by
  cases hb : o.bugSaio with
  | true => rfl
  | false =>
    obtain ⟨w, h1, h2, _⟩ := rewrite_saio_points o s hb hsenc x0 hsaio
    exact absurd ⟨w, h1, h2⟩ hstale

/-- **`bugs=saio` is the only permitted deviation and it deviates in nothing
else**: with and without the option the served segment has the same boxes at the
same positions with the same sizes at every level, the same base, payload and
length, and the same traf children up to the offsets stored in the saio. -/
theorem rewrite_bug_changes_only_saio (o : Opts) (s : Seg) :
    let r1 := rewrite { o with bugSaio := true } s
    let r0 := rewrite { o with bugSaio := false } s
    r1.top = r0.top ∧ r1.moofPos = r0.moofPos ∧ r1.moofSize = r0.moofSize ∧
    r1.moofKids = r0.moofKids ∧ r1.trafPos = r0.trafPos ∧ r1.trafSize = r0.trafSize ∧
    r1.trafKids = r0.trafKids ∧ r1.base = r0.base ∧ r1.mdatPos = r0.mdatPos ∧
    r1.mdatSize = r0.mdatSize ∧ r1.payloadStart = r0.payloadStart ∧ r1.payload = r0.payload ∧
    r1.total = r0.total ∧ r1.traf.map eraseSaio = r0.traf.map eraseSaio :=
  rewrite_bug_indep o s true false

/-- **Pass 2 rewrites in place.**  Every byte range `post_encode` overwrites after
the sizes have been back-patched lies inside the fields of the box it belongs to:
the trun patch covers sample_count, data_offset (and first_sample_flags) right
behind the 12-byte full-box header of the served trun, the saio patch is the
served saio box exactly.  No neighbouring box and no size field of an enclosing
box is touched. -/
theorem rewrite_patches_in_place (o : Opts) (s : Seg) (h : shapeOk s = true) (p : Nat × Nat)
    (hp : p ∈ (rewrite o s).patches) :
    ∃ b, b ∈ (rewrite o s).trafKids ∧
      ((b.typ = "trun" ∧ p.1 = b.pos + 12 ∧ p.1 + p.2 ≤ b.pos + b.size) ∨
       (b.typ = "saio" ∧ p.1 = b.pos ∧ p.2 = b.size)) := by
  obtain ⟨c1, c2, _, _, he, hsaio⟩ := rewrite_patches_eq o s
  rw [he, List.mem_append] at hp
  rw [rewrite_trafKids]
  rcases hp with hp | hp
  · obtain ⟨-, rfl⟩ := mem_ite_singleton hp
    obtain ⟨x, hx, hq, hm⟩ := mem_place_find? isTrun (eTrafPos o s + 8)
      ((any_isTrun_trafEdited o s.traf).trans (shape_trun s h))
    -- the patch ends inside the trun because `forceDop` gave it its data_offset field
    have hd := trunDop_trafEdited o s.traf (shape_trun s h)
    refine ⟨_, hm, Or.inl ?_⟩
    rw [trunFsf, eT, firstSome_eq_find? (g := gTrunFsf) (q := isTrun) (fun x => by cases x <;> rfl), hx]
    rw [trunDop, firstSome_eq_find? isSome_gTrunDop, hx] at hd
    cases x <;> cases hq
    cases hd
    refine ⟨rfl, rfl, ?_⟩
    simp only [Option.bind_some, gTrunFsf, Option.getD_some, TBox.size, show b2n true 4 = 4 from rfl]
    omega
  · obtain ⟨hc, rfl⟩ := mem_ite_singleton hp
    obtain ⟨x, hx, hq, hm⟩ := mem_place_find? isSaio (eTrafPos o s + 8) (hsaio hc)
    refine ⟨_, hm, Or.inr ?_⟩
    rw [firstSome_eq_find? (g := gSaioSize) (q := isSaio) (fun x => by cases x <;> rfl), hx]
    cases x <;> cases hq
    exact ⟨rfl, rfl, rfl⟩

/-! ### non-vacuity: a concrete non-trivial instance satisfies every hypothesis, and
the conclusions fail at concrete points outside them -/

example : shapeOk exSeg = true := by decide
example : hasSenc exSeg.traf = true ∧ saioOffsets exSeg.traf = some [999] := by decide
example : (rewrite (exOpts false) exSeg).top.map (·.typ) = ["styp", "emsg", "moof", "mdat", "styp"] ∧
    (rewrite (exOpts false) exSeg).trafKids.map (·.typ) =
      ["tfhd", "tfdt", "uuid", "saiz", "saio", "senc", "trun"] := by decide
example : saioOffsets (rewrite (exOpts false) exSeg).traf = some [213] ∧
    (rewrite (exOpts false) exSeg).base + 213 = sencEntryPos (rewrite (exOpts false) exSeg) ∧
    trunOffset (rewrite (exOpts false) exSeg).traf = 317 ∧
    (rewrite (exOpts false) exSeg).patches = [(347, 12), (251, 20)] := by decide
/-- with `bugs=saio` the served saio really is stale (the deviation the property permits) -/
example : ¬ ∃ w, saioOffsets (rewrite (exOpts true) exSeg).traf = some [w] ∧
    (rewrite (exOpts true) exSeg).base + w = sencEntryPos (rewrite (exOpts true) exSeg) := by
  intro ⟨w, h1, h2⟩
  have : saioOffsets (rewrite (exOpts true) exSeg).traf = some [111] := by decide
  cases this.symm.trans h1
  exact absurd h2 (by decide)
/-- outside `shapeOk` (no trun) the trun conclusions fail -/
example : shapeOk exNoTrun = false ∧ trunDop (rewrite (exOpts false) exNoTrun).traf = false := by decide

end DashLive.SegmentRewrite
