import DashLive.Lemmas.BufReader
/-!
# C20 – the windowed buffered reader behaves exactly like a slice of the file

What each operation returns: `peek_spec` (the file from the position on, at least as far as asked) and
`readN_spec` (an equation in terms of the window, for `read(n)` and, by `step_read`, `readall()`); the
loop and the cache are in `Lemmas/BufReader.lean`.  `step_refines` puts the four operations together,
and the property theorems follow by induction over the history.

Quantification: every file content, every window `(offset, size)` lying inside
the file, every buffer size ≥ 1, every cache limit, **every eviction policy**
(`Cfg.evict` is an arbitrary function), every finite operation sequence.
-/
namespace DashLive.BufReader

def Inv (c : Cfg) (s : St) : Prop := CacheOk c s.buffers ∧ s.pos ≤ c.size

/-- the hypotheses C20 quantifies under: explicit window inside the file, buffer size ≥ 1 -/
structure Wf (c : Cfg) : Prop where
  window_in_file : c.offset + c.size ≤ c.file.length
  bufsize_pos : 0 < c.bufsize

theorem window_drop_take (c : Cfg) (pos n : Nat) :
    ((window c).drop pos).take n = (c.file.drop (pos + c.offset)).take (min n (c.size - pos)) := by
  unfold window
  rw [List.drop_take, List.take_take, List.drop_drop, Nat.add_comm]

theorem window_length (c : Cfg) (h : Wf c) : (window c).length = c.size := by
  rw [window, List.length_take, List.length_drop]
  exact Nat.min_eq_left (Nat.le_sub_of_add_le' h.window_in_file)

theorem init_inv (c : Cfg) : Inv c init := ⟨nofun, Nat.zero_le _⟩

theorem peek_spec (c : Cfg) (h : Wf c) (s : St) (n : Nat) (hi : Inv c s) :
    (peek c s n).1.pos = s.pos ∧
    ∃ K, min n (c.size - s.pos) ≤ K ∧
      (peek c s n).2 = (c.file.drop (s.pos + c.offset)).take K := by
  unfold peek
  dsimp only
  by_cases h0 : min n (c.size - s.pos) = 0
  · rw [if_pos h0]
    exact ⟨rfl, 0, Nat.le_of_eq h0, rfl⟩
  · rw [if_neg h0]
    have hmod : s.pos - s.pos / c.bufsize * c.bufsize < c.bufsize := by
      rw [← Nat.mod_eq_sub_div_mul]; exact Nat.mod_lt _ h.bufsize_pos
    obtain ⟨K, hK, h2⟩ := peekLoop_spec c h.bufsize_pos (min n (c.size - s.pos)) s.buffers
      (s.pos / c.bufsize * c.bufsize) (s.pos - s.pos / c.bufsize * c.bufsize)
      (min n (c.size - s.pos)) [] hi.1 hmod (Nat.le_refl _)
    refine ⟨rfl, K, hK, ?_⟩
    rw [h2, List.nil_append, Nat.add_right_comm, Nat.add_sub_cancel' (Nat.div_mul_le_self _ _)]

theorem readN_spec (c : Cfg) (h : Wf c) (s : St) (n : Int) (hi : Inv c s) :
    (readN c s n).1.pos = s.pos + min n.toNat (c.size - s.pos) ∧
    (readN c s n).2 = ((window c).drop s.pos).take n.toNat := by
  have hk : (min n ((c.size : Int) - s.pos)).toNat = min n.toNat (c.size - s.pos) := by
    rw [toNat_min, Int.toNat_sub]
  rw [window_drop_take]
  unfold readN
  dsimp only
  by_cases hm : min n ((c.size : Int) - s.pos) ≤ 0
  · rw [if_pos hm, ← hk, Int.toNat_of_nonpos hm]
    exact ⟨rfl, rfl⟩
  · obtain ⟨h2, K, hK, h3⟩ := peek_spec c h s (min n.toNat (c.size - s.pos)) hi
    -- `peek` clamps the already clamped count to the window once more
    rw [Nat.min_eq_left (Nat.min_le_right _ _)] at hK
    rw [if_neg hm, hk]
    dsimp only
    rw [h2, h3, List.take_take, Nat.min_eq_left hK]
    exact ⟨rfl, rfl⟩

/-- **One-step refinement.**  From any state satisfying the invariant, each
operation returns what the in-memory stream over the window returns (for `peek`:
at least that, as a prefix), moves the position exactly as the stream does, and
re-establishes the invariant. -/
theorem step_refines (c : Cfg) (h : Wf c) (s : St) (op : Op) (hi : Inv c s) :
    Inv c (step c s op).1 ∧ (step c s op).1.pos = (specStep c s.pos op).1 ∧
    agrees op (step c s op).2 (specStep c s.pos op).2 := by
  have hb : CacheOk c (step c s op).1.buffers :=
    step_buffers (P := CacheOk c) (fun _ b hb => cache_ok hb b) s op hi.1
  cases op with
  | tell => exact ⟨⟨hb, hi.2⟩, rfl, rfl⟩
  | seek off w => exact ⟨⟨hb, Int.toNat_le.mpr (Int.min_le_right _ _)⟩, rfl, rfl⟩
  | peek n =>
    obtain ⟨h2, K, hK, h3⟩ := peek_spec c h s n hi
    refine ⟨⟨hb, h2 ▸ hi.2⟩, h2, ?_⟩
    show ((window c).drop s.pos).take n <+: (peek c s n).2
    rw [h3, window_drop_take]
    exact List.take_prefix_take_left hK
  | read n =>
    obtain ⟨h2, h3⟩ := readN_spec c h s (if n = -1 then (c.size : Int) - s.pos else n) hi
    rw [step_read] at hb ⊢
    refine ⟨⟨hb, h2 ▸ Nat.add_le_of_le_sub' hi.2 (Nat.min_le_right _ _)⟩, ?_⟩
    rw [h2, h3, specStep]
    -- the three arms of the specification: everything, nothing (`take 0`), `n` bytes
    by_cases hn : n = -1
    · rw [if_pos hn, if_pos hn]
      dsimp only
      rw [Int.toNat_sub, Nat.min_self, List.length_drop, window_length c h,
        List.take_of_length_le (by rw [List.length_drop, window_length c h]; exact Nat.le_refl _)]
      exact ⟨rfl, rfl⟩
    · rw [if_neg hn, if_neg hn]
      split
      · next hn0 => rw [Int.toNat_of_nonpos hn0, Nat.zero_min]; exact ⟨rfl, rfl⟩
      · dsimp only
        rw [List.length_take, List.length_drop, window_length c h]; exact ⟨rfl, rfl⟩

def specRun (c : Cfg) : Nat → List Op → List Out
  | _, [] => []
  | p, op :: ops => let (p', o) := specStep c p op; o :: specRun c p' ops

def agreesAll : List Op → List Out → List Out → Prop
  | [], [], [] => True
  | op :: ops, o :: os, o' :: os' => agrees op o o' ∧ agreesAll ops os os'
  | _, _, _ => False

/-- **C20 (refinement, every finite history).**  For every file, window inside
the file, buffer size ≥ 1, cache limit, eviction policy and operation sequence,
starting from any state that satisfies the invariant (in particular the initial
one), the reader's outputs agree with those of an in-memory stream over the
window's bytes. -/
theorem refines_slice (c : Cfg) (h : Wf c) (ops : List Op) (s : St) (hi : Inv c s) :
    agreesAll ops (run c s ops) (specRun c s.pos ops) := by
  induction ops generalizing s with
  | nil => simp [run, specRun, agreesAll]
  | cons op ops ih =>
    obtain ⟨h1, h2, h3⟩ := step_refines c h s op hi
    simp only [run, specRun, agreesAll]
    refine ⟨h3, ?_⟩
    rw [← h2]
    exact ih _ h1

theorem refines_slice_init (c : Cfg) (h : Wf c) (ops : List Op) :
    agreesAll ops (run c init ops) (specRun c 0 ops) :=
  refines_slice c h ops init (init_inv c)

def exec (c : Cfg) : St → List Op → St
  | s, [] => s
  | s, op :: ops => exec c (step c s op).1 ops

theorem exec_induction {c : Cfg} {P : St → Prop} (hstep : ∀ s op, P s → P (step c s op).1)
    (ops : List Op) (s : St) (h : P s) : P (exec c s ops) := by
  induction ops generalizing s with
  | nil => exact h
  | cons op ops ih => exact ih _ (hstep s op h)

theorem inv_reachable (c : Cfg) (h : Wf c) (ops : List Op) (s : St) (hi : Inv c s) :
    Inv c (exec c s ops) :=
  exec_induction (fun s op hi => (step_refines c h s op hi).1) ops s hi

/-- **positions clamp to `[0, size]`** in every reachable state -/
theorem pos_clamped (c : Cfg) (h : Wf c) (ops : List Op) :
    (exec c init ops).pos ≤ c.size :=
  (inv_reachable c h ops init (init_inv c)).2

/-- **reads never return data outside the window**: a `read` from a state satisfying the invariant
(every reachable state: `inv_reachable`) returns a contiguous part of the window,
`(window.drop p).take k`. -/
theorem never_outside_window (c : Cfg) (h : Wf c) (s : St) (hi : Inv c s) (n : Int) :
    ∃ k, (step c s (.read n)).2 = .bytes (((window c).drop s.pos).take k) := by
  rw [step_read]
  exact ⟨_, congrArg Out.bytes (readN_spec c h s _ hi).2⟩

theorem specRun_congr {c₁ c₂ : Cfg} (hw : window c₁ = window c₂) (hs : c₁.size = c₂.size)
    (ops : List Op) (p : Nat) : specRun c₁ p ops = specRun c₂ p ops := by
  induction ops generalizing p with
  | nil => rfl
  | cons op ops ih =>
    have hst : specStep c₁ p op = specStep c₂ p op := by
      cases op <;> simp only [specStep, hw, hs]
    simp only [specRun, hst, ih]

/-- **eviction is invisible**: two configurations over the same file and window – eviction
policy, cache limit and buffer size are free – produce outputs that agree with the *same*
specification run. -/
theorem eviction_invisible (c₁ c₂ : Cfg) (h₁ : Wf c₁) (h₂ : Wf c₂)
    (hf : c₁.file = c₂.file) (ho : c₁.offset = c₂.offset) (hs : c₁.size = c₂.size)
    (ops : List Op) :
    ∃ spec, agreesAll ops (run c₁ init ops) spec ∧ agreesAll ops (run c₂ init ops) spec := by
  refine ⟨specRun c₁ 0 ops, refines_slice_init c₁ h₁ ops, ?_⟩
  rw [specRun_congr (by rw [window, window, hf, ho, hs]) hs]
  exact refines_slice_init c₂ h₂ ops

/-- **cache bound** (the code's `assert self.num_buffers <= self.max_buffers`):
in every reachable state the cache holds at most `maxbuf` buckets, for any
eviction policy that names an existing entry. -/
theorem cache_bounded (c : Cfg) (hmax : 1 ≤ c.maxbuf)
    (hev : ∀ b : List (Nat × Bytes), b ≠ [] → c.evict b < b.length) (ops : List Op) :
    ∀ s : St, s.buffers.length ≤ c.maxbuf → (exec c s ops).buffers.length ≤ c.maxbuf :=
  exec_induction (P := fun s => s.buffers.length ≤ c.maxbuf)
    (fun s op => step_buffers (P := fun b => b.length ≤ c.maxbuf)
      (fun _ bucket hl => cache_length bucket hmax hl hev) s op) ops

/-- a concrete non-trivial configuration: 12-byte file, window (3, 7), 4-byte
buffers that do not divide the window, 2 cached buckets, evict the first. -/
def exCfg : Cfg :=
  { file := [0,1,2,3,4,5,6,7,8,9,10,11], offset := 3, size := 7, bufsize := 4, maxbuf := 2,
    evict := fun _ => 0 }

example : Wf exCfg := ⟨by decide, by decide⟩

example : run exCfg init [.read 3, .seek (-2) .end_, .read (-1), .seek 1 .set, .peek 2, .tell]
    = [.bytes [3,4,5], .pos 5, .bytes [8,9], .pos 1, .bytes [4,5,6], .pos 1] := by decide

/-- D5: with the *unrepaired* `readall()` the reader returned bytes outside the
window (here bytes 0..2 and 10..11 of the file, window is bytes 3..9). -/
example : (readAllOld exCfg init).2 ≠ window exCfg := by decide

end DashLive.BufReader
