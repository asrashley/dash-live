import DashLive.Props.C19
import DashLive.Props.C07
/-!
# C07 × C19 – the date-time text hypothesis of C07 discharged by the C19 model

`Model/Options.lean` leaves the date-time text codec as a parameter (`DTCodec`)
and `Props/C07.lean` states its codec theorems under `DtCodecLaws C`.  Here the
parameter is instantiated with the C19 model of `to_iso_datetime` /
`from_isodatetime` (`DashLive.IsoText`), which is what the option layer really
calls (`manifest_options.py:46-61` `ast_from_string` / `ast_to_string`,
`dash_option.py` `datetime_or_none_*`), and the laws are proved from
`datetime_roundtrip` plus lexical facts about the rendered text.

**Carrier.**  `DtTextRoundTrip` (`parse (render d) = some d`) is *false* for naive
date-times, in the model and in the code: `to_iso_datetime` writes a naive value
with `Z`, `from_isodatetime` reads that back as an aware UTC value, and Python's
`naive == aware` is `False`.  The laws therefore hold on `AwareDT` = the records
the `datetime` constructor accepts (`valid`) with a whole-minute offset
`isoformat()` accepts (`offsetOk`) that are **aware**.  For the full set of
valid records (naive included) the strongest true statement is
`c19_text_roundtrip_partial`: the text is read back as the same fields with
offset 0, and that value renders to the same text again (a fixed point after
one step).

Text bridge: C07's text is `List UInt8` (UTF-8), C19's is `List Char`.  The
rendered text is pure ASCII (`okChar`), so `byteOf`/`charOf` are inverse on it.
On the parse side every byte is mapped to the character with that code; a byte
≥ 0x80 (part of a multi-byte sequence) becomes a non-ASCII character, which the
C19 recognisers reject exactly as they reject the decoded character (only ASCII
digits and ASCII punctuation are accepted anywhere in a date-time).  Texts that
`from_isodatetime` reads as a duration, or through its `strptime` branches, or
with an offset of 24 h or more are `none` here: they are not `AwareDT` values.
-/
namespace DashLive.Options
open DashLive.IsoText

def byteOf (c : Char) : UInt8 := UInt8.ofNat c.toNat
def charOf (b : UInt8) : Char := Char.ofNat b.toNat

def Aware (d : DateTime) : Prop :=
  d.valid = true ∧ d.offsetOk = true ∧ d.offset.isSome = true

instance (d : DateTime) : Decidable (Aware d) := by unfold Aware; infer_instance

abbrev AwareDT := { d : DateTime // Aware d }

/-- `from_isodatetime` / `to_iso_datetime` of the C19 model as C07's codec -/
def c19Codec : DTCodec AwareDT where
  parse s :=
    match fromIsoDateTime (s.map charOf) with
    | some (.datetime d) => if h : Aware d then some ⟨d, h⟩ else none
    | _ => none
  render d := (toIsoDateTime d.1).map byteOf

/-- the characters `to_iso_datetime` can write -/
def okChar (c : Char) : Bool :=
  c.isDigit || c == '-' || c == 'T' || c == ':' || c == '.' || c == 'Z' || c == '+'

theorem toNat_byteOf {c : Char} (h : c.isDigit = true) : (byteOf c).toNat = c.toNat := by
  have : c.toNat ≤ 57 := (Char.isDigit_iff_toNat.mp h).2
  simp [byteOf]; omega

theorem isDigit_byteOf {c : Char} (h : c.isDigit = true) : isDigit (byteOf c) = true := by
  simp only [isDigit, UInt8.le_iff_toNat_le, toNat_byteOf h, Bool.and_eq_true, decide_eq_true_eq]
  exact Char.isDigit_iff_toNat.mp h

theorem okChar_ind {P : Char → Prop} (hd : ∀ c, c.isDigit = true → P c)
    (hs : ∀ c ∈ ['-', 'T', ':', '.', 'Z', '+'], P c) {c : Char} (h : okChar c = true) : P c := by
  simp only [okChar, Bool.or_eq_true, beq_iff_eq, or_assoc] at h
  exact h.elim (hd c) fun h => hs c (by simpa using h)

theorem okChar_noSep {c : Char} (h : okChar c = true) : byteOf c ≠ 44 ∧ byteOf c ≠ 61 :=
  okChar_ind (P := fun c => byteOf c ≠ 44 ∧ byteOf c ≠ 61)
    (fun _ hd => ⟨ne_of_class (isDigit_byteOf hd) (by decide), ne_of_class (isDigit_byteOf hd) (by decide)⟩)
    (by decide) h

theorem okChar_noWs {c : Char} (h : okChar c = true) : isWs (byteOf c) = false :=
  okChar_ind (P := fun c => isWs (byteOf c) = false) (fun _ hd => isDigit_not_ws (isDigit_byteOf hd)) (by decide) h

theorem charOf_byteOf {c : Char} (h : okChar c = true) : charOf (byteOf c) = c := by
  refine okChar_ind (P := fun c => charOf (byteOf c) = c) (fun c hd => ?_) (by decide) h
  rw [charOf, toNat_byteOf hd, Char.ofNat_toNat]

def AllOk (l : Text) : Prop := ∀ c ∈ l, okChar c = true

theorem allOk_nil : AllOk [] := fun _ h => by cases h

theorem allOk_append {a b : Text} (ha : AllOk a) (hb : AllOk b) : AllOk (a ++ b) :=
  List.forall_mem_append.2 ⟨ha, hb⟩

theorem allOk_cons {c : Char} {l : Text} (hc : okChar c = true) (hl : AllOk l) : AllOk (c :: l) :=
  List.forall_mem_cons.2 ⟨hc, hl⟩

theorem allOk_pad (k n : Nat) : AllOk (pad k n) := by
  intro c hc
  have := allDigits_pad k n c hc
  simp [okChar, this]

theorem allOk_bodyText (d : DateTime) : AllOk (bodyText d) := by
  unfold bodyText
  -- one step per field, from the fraction back to the year
  refine allOk_append ?_ (by split; exact allOk_cons (by decide) (allOk_pad _ _); exact allOk_nil)
  refine allOk_append ?_ (allOk_cons (by decide) (allOk_pad _ _))
  refine allOk_append ?_ (allOk_cons (by decide) (allOk_pad _ _))
  refine allOk_append ?_ (allOk_cons (by decide) (allOk_pad _ _))
  refine allOk_append ?_ (allOk_cons (by decide) (allOk_pad _ _))
  exact allOk_append (allOk_pad _ _) (allOk_cons (by decide) (allOk_pad _ _))

theorem allOk_tzText (off : Option Int) : AllOk (tzText off) := by
  unfold tzText
  cases off with
  | none => exact allOk_cons (by decide) allOk_nil
  | some o =>
    simp only []
    split
    · exact allOk_cons (by decide) allOk_nil
    · unfold offText
      refine allOk_cons ?_ (allOk_append (allOk_pad _ _) (allOk_cons (by decide) (allOk_pad _ _)))
      split <;> decide

theorem allOk_toIsoDateTime (d : DateTime) (ho : d.offsetOk = true) : AllOk (toIsoDateTime d) := by
  rw [toIsoDateTime_eq d ho]
  exact allOk_append (allOk_bodyText d) (allOk_tzText d.offset)

theorem map_charOf_byteOf {l : Text} (h : AllOk l) : (l.map byteOf).map charOf = l := by
  rw [List.map_map]
  have : ∀ c ∈ l, (charOf ∘ byteOf) c = id c := fun c hc => charOf_byteOf (h c hc)
  rw [List.map_congr_left this, List.map_id]

/-- the text starts with the (at least four) digits of the year followed by `-` -/
theorem render_head (d : AwareDT) :
    ∃ b ds rest, c19Codec.render d = b :: (ds ++ 45 :: rest) ∧ ∀ x ∈ b :: ds, isDigit x = true := by
  show ∃ b ds rest, (toIsoDateTime d.1).map byteOf = _ ∧ _
  rw [toIsoDateTime_eq d.1 d.2.2.1]
  cases hp : pad 4 d.1.year with
  | nil => exact absurd hp (pad_ne_nil _ _)
  | cons c cs =>
    have hd := allDigits_pad 4 d.1.year
    rw [hp] at hd
    obtain ⟨rest, hr⟩ : ∃ rest, (bodyText d.1 ++ tzText d.1.offset).map byteOf =
        byteOf c :: (cs.map byteOf ++ 45 :: rest) := ⟨_, by
      simp only [bodyText, hp, List.append_assoc, List.cons_append, List.map_cons, List.map_append]
      rfl⟩
    refine ⟨byteOf c, cs.map byteOf, rest, hr, fun x hx => ?_⟩
    obtain ⟨y, hy, rfl⟩ := List.mem_map.mp (List.map_cons ▸ hx)
    exact isDigit_byteOf (hd y hy)

theorem render_clean (d : AwareDT) : (44 : UInt8) ∉ c19Codec.render d ∧ (61 : UInt8) ∉ c19Codec.render d := by
  have h : ∀ b ∈ c19Codec.render d, b ≠ 44 ∧ b ≠ 61 := by
    intro b hb
    obtain ⟨x, hx, rfl⟩ := List.mem_map.mp hb
    exact okChar_noSep (allOk_toIsoDateTime d.1 d.2.2.1 x hx)
  exact ⟨fun hm => (h _ hm).1 rfl, fun hm => (h _ hm).2 rfl⟩

theorem render_noWs (d : AwareDT) : ∀ b ∈ c19Codec.render d, isWs b = false := by
  intro b hb
  obtain ⟨x, hx, rfl⟩ := List.mem_map.mp hb
  exact okChar_noWs (allOk_toIsoDateTime d.1 d.2.2.1 x hx)

theorem c19_render_roundtrip (d : AwareDT) : c19Codec.parse (c19Codec.render d) = some d := by
  obtain ⟨d, hv, ho, hs⟩ := d
  have hrt := datetime_roundtrip d hv ho
  have hsame : ({ d with offset := some (d.offset.getD 0) } : DateTime) = d := by
    cases hoff : d.offset with
    | none => rw [hoff] at hs; cases hs
    | some o =>
      cases d
      simp only [DateTime.mk.injEq, true_and] at hoff ⊢
      rw [hoff]; rfl
  rw [hsame] at hrt
  simp only [c19Codec, map_charOf_byteOf (allOk_toIsoDateTime d ho), hrt]
  rw [dif_pos ⟨hv, ho, hs⟩]

/-- **C07's date-time text laws hold for the C19 model**, unconditionally -/
theorem c19_codec_laws : DtCodecLaws c19Codec where
  roundtrip := c19_render_roundtrip
  digitFirst := by
    intro d
    obtain ⟨b, ds, rest, he, hd⟩ := render_head d
    exact ⟨b, _, he, hd b List.mem_cons_self⟩
  clean := render_clean
  notInt := by
    intro d
    obtain ⟨b, ds, rest, he, hd⟩ := render_head d
    -- the digits of the year run into a `-`
    rw [he, pyInt_digit_head (he ▸ render_noWs d) (hd b List.mem_cons_self), pyDigits, ← List.cons_append,
      pyDigitsAux_run _ _ hd]
    rfl

/-- **The strongest true round trip on all valid records, naive included**
(`DtTextRoundTrip` itself fails at every naive record): the text is read back as
the same fields at offset 0 (UTC – what the written `Z` says), and that value is
a fixed point: it renders to the same text. -/
theorem c19_text_roundtrip_partial (d : DateTime) (hv : d.valid = true) (ho : d.offsetOk = true) :
    fromIsoDateTime (toIsoDateTime d) = some (.datetime { d with offset := some (d.offset.getD 0) })
    ∧ toIsoDateTime { d with offset := some (d.offset.getD 0) } = toIsoDateTime d := by
  refine ⟨datetime_roundtrip d hv ho, ?_⟩
  have ho' : ({ d with offset := some (d.offset.getD 0) } : DateTime).offsetOk = true := by
    cases hoff : d.offset with
    | none => simp [DateTime.offsetOk]
    | some o => simpa [DateTime.offsetOk, hoff] using ho
  rw [toIsoDateTime_eq _ ho', toIsoDateTime_eq d ho]
  cases d.offset <;> simp [bodyText, tzText]

/-- non-vacuity of the hypotheses, and the excluded point: a naive record does not come back -/
example : (DateTime.mk 2022 10 18 14 22 24 0 none).valid = true
    ∧ (DateTime.mk 2022 10 18 14 22 24 0 none).offsetOk = true
    ∧ fromIsoDateTime (toIsoDateTime (DateTime.mk 2022 10 18 14 22 24 0 none))
        ≠ some (.datetime (DateTime.mk 2022 10 18 14 22 24 0 none)) := by decide

example : Aware (DateTime.mk 2023 7 25 12 34 56 500000 (some 330)) := by decide

theorem codec_roundtrip_astDateTime_c19 :
    (∀ s ∈ specialAst, fromString c19Codec .astDateTime
        (cgiText (toText c19Codec .astDateTime (.str s))) = .ok (.str s)) ∧
    fromString c19Codec .astDateTime (cgiText (toText c19Codec .astDateTime .none))
        = .ok (.none : Val AwareDT) ∧
    (∀ d, fromString c19Codec .astDateTime
        (cgiText (toText c19Codec .astDateTime (.dt d))) = .ok (.dt d)) :=
  codec_roundtrip_astDateTime c19Codec c19_codec_laws

theorem codec_roundtrip_dtOrNone_c19 :
    fromString c19Codec .dtOrNone (cgiText (toText c19Codec .dtOrNone .none))
        = .ok (.none : Val AwareDT) ∧
    (∀ d, fromString c19Codec .dtOrNone
        (cgiText (toText c19Codec .dtOrNone (.dt d))) = .ok (.dt d)) :=
  codec_roundtrip_dtOrNone c19Codec c19_codec_laws

theorem codec_roundtrip_errorList_c19 (l : List (Int × Pos AwareDT)) :
    fromString c19Codec .errorList (cgiText (toText c19Codec .errorList (.errs l)))
        = .ok (.errs l) :=
  codec_roundtrip_errorList c19Codec c19_codec_laws l

theorem codec_roundtrip_c19 (k : Kind) (v : Val AwareDT) (h : Canonical k v) :
    ∃ v', fromString c19Codec k (cgiText (toText c19Codec k v)) = .ok v' ∧ ValEquiv v' v :=
  codec_roundtrip c19Codec c19_codec_laws k v h

end DashLive.Options
