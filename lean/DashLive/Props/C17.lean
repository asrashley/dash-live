import DashLive.Lemmas.Store
/-!
# C17 – management histories keep the store consistent

The property theorems about `Model/Store.lean` (invariant and lemmas: `Lemmas/Store.lean`), and concrete
histories as witnesses.

Nothing is bounded: every state, every operation with every argument (primary keys that exist or not,
repeated names, any content descriptor, any list of Period specs), every finite history.

What these theorems are *about* is the model; that the model is what the real
application does is the `store_hist` correspondence obligation (checked after
every step of every generated history, see harness/props/c17.py).  The
service-level half of C17 (manifests answer 200/4xx, indexed files come back
byte-exactly) is evaluated on the real application by the Layer-C oracle.
-/
namespace DashLive.Store

theorem inv_init : Inv init :=
  ⟨⟨by constructor <;> simp [init], nofun⟩, by constructor <;> simp [init]⟩

/-- **every management operation preserves referential consistency** – with no side
condition on the operation or its arguments (the model follows the code with the repairs of D15). -/
theorem inv_step (s : St) (op : Op) (h : Inv s) : Inv (step s op).1 := by
  let P : St × Res → Prop := fun r => Inv r.1
  have same : ∀ r, P (s, r) := fun _ => h
  show P (step s op)
  cases op with
  | addStream d t => exact inv_addStream h d t
  | editStream k d t r =>
    exact editStream_cases s same k d t r fun st dir' tr _ _ htr hu =>
      ⟨core_setStream h.core st.pk dir' t tr htr, hu⟩
  | delStream k => exact delStream_cases s same k (inv_dropStream h k)
  | setDefaults k v => exact setDefaults_cases s same k v
  | upload k st su c =>
    exact upload_cases s same k st su c fun _ _ hst hmf hacc => inv_uploadAccepted hmf hacc h hst c
  | index m =>
    exact index_cases s same m fun f c hf hk => inv_applyIndex h m (List.mem_map.mpr ⟨f, hf, hk⟩) c
  | editMedia k m t =>
    exact editMedia_cases s same k m t (fun _ _ _ => inv_disk h _)
      fun _ _ _ _ hf _ _ hnn => inv_disk (inv_editMediaApply h hf _ hnn _) _
  | delMedia k m => exact delMedia_cases s same k m fun _ hf => inv_delMedia h hf
  | addKey kid c => exact addKey_cases s same kid c (inv_addKey h kid c)
  | editKey k c => exact editKey_cases s same k c (inv_editKey h k c)
  | delKey k => exact delKey_cases s same k (inv_dropKey h k)
  | addMps n t ps =>
    exact addMps_cases s same n t ps fun _ hp hu =>
      ⟨core_processPeriods (core_addMps h.core n t) (by simp) hp, hu⟩
  | editMps u b n t ps =>
    exact editMps_cases s same u b n t ps fun m _ hm hp hu =>
      ⟨core_processPeriods (core_editMps h.core m.pk n t)
        (mem_map_upd (List.mem_map.mpr ⟨m, hm, rfl⟩) fun _ => rfl) hp, hu⟩
  | delMps n => exact delMps_cases s same n fun k => inv_dropMps h k

/-- **every finite history**: the state reached from a consistent state by any
list of operations is consistent -/
theorem inv_reachable (ops : List Op) (s : St) (h : Inv s) : Inv (exec s ops) :=
  exec_ind inv_step ops s h

theorem inv_reachable_init (ops : List Op) : Inv (exec init ops) := inv_reachable ops init inv_init

/-- the invariant in the words of the property: in every reachable state every
media file has its stream and its blob, every key link, period, adaptation set
and timing reference points at an existing row, and names are unique -/
theorem reachable_consistent (ops : List Op) :
    let s := exec init ops
    (∀ f ∈ s.files, (∃ st ∈ s.streams, st.pk = f.stream) ∧ (∃ b ∈ s.blobs, b.pk = f.blob)) ∧
    (∀ l ∈ s.links, (∃ f ∈ s.files, f.pk = l.1) ∧ (∃ k ∈ s.keys, k.pk = l.2)) ∧
    (∀ p ∈ s.periods, (∃ m ∈ s.mps, m.pk = p.parent) ∧ (∃ st ∈ s.streams, st.pk = p.stream)) ∧
    (∀ a ∈ s.adps, ∃ p ∈ s.periods, p.pk = a.period) ∧
    (∀ st ∈ s.streams, ∀ n, st.tref = some n → ∃ f ∈ s.files, f.name = n ∧ f.stream = st.pk) ∧
    (s.streams.map (·.dir)).Nodup ∧ (s.files.map (·.name)).Nodup ∧ (s.blobs.map (·.filename)).Nodup ∧
    (s.keys.map (·.kid)).Nodup ∧ (s.mps.map (·.name)).Nodup ∧
    (s.periods.map (fun p => (p.parent, p.pid))).Nodup ∧ (s.adps.map (fun a => (a.period, a.track))).Nodup := by
  intro s
  obtain ⟨c, u⟩ := inv_reachable_init ops
  exact ⟨fun f hf => ⟨List.mem_map.mp (c.fileStream f hf), List.mem_map.mp (c.fileBlob f hf)⟩,
         fun l hl => ⟨List.mem_map.mp (c.linkFile l hl), List.mem_map.mp (c.linkKey l hl)⟩,
         fun p hp => ⟨List.mem_map.mp (c.periodParent p hp), List.mem_map.mp (c.periodStream p hp)⟩,
         fun a ha => List.mem_map.mp (c.adpPeriod a ha), c.tref,
         u.streamDir, c.fileName, c.blobName, c.keyKid, u.mpsName, u.periodPid, u.adpTrack⟩

/-- each operation keeps the blob file of every media file on disk (in the
directory of its stream, under the name its blob row records) -/
theorem blob_files_step (s : St) (op : Op) (h : Inv s) (hd : DiskOK s) : DiskOK (step s op).1 := by
  let P : St × Res → Prop := fun r => DiskOK r.1
  have same : ∀ r, P (s, r) := fun _ => hd
  show P (step s op)
  cases op with
  | addStream d t => exact diskOK_addStream h hd d t
  | editStream k d t r =>
    exact editStream_cases s same k d t r fun _ _ tr hst hdir _ _ =>
      diskOK_setStream h hd hst hdir t tr
  | delStream k => exact delStream_cases s same k (diskOK_dropStream hd k)
  | setDefaults k v => exact setDefaults_cases s same k v
  | upload k st su c =>
    exact upload_cases s same k st su c fun _ _ hst hmf hacc =>
      diskOK_uploadAccepted hmf hacc h hd hst c
  | index m => exact index_cases s same m fun _ c _ _ => diskOK_applyIndex hd m c
  | editMedia k m t =>
    exact editMedia_cases s same k m t (fun _ _ _ => diskOK_writeDisk hd _ _ _)
      fun _ _ _ _ hf hst hk _ => diskOK_editMediaApply h hd hf hst hk _ _
  | delMedia k m => exact delMedia_cases s same k m fun f _ => diskOK_delMedia hd f
  | addKey kid c => exact addKey_cases s same kid c fun _ => hd
  | editKey k c => exact editKey_cases s same k c hd
  | delKey k => exact delKey_cases s same k hd
  | addMps n t ps =>
    exact addMps_cases s same n t ps fun _ hp _ => diskOK_processPeriods hp hd
  | editMps u b n t ps =>
    exact editMps_cases s same u b n t ps fun _ _ _ hp _ => diskOK_processPeriods hp hd
  | delMps n => exact delMps_cases s same n fun _ => hd

/-- in every reachable state every media file has its blob row *and* its blob file -/
theorem blob_files_reachable (ops : List Op) : DiskOK (exec init ops) :=
  (exec_ind (P := fun s => Inv s ∧ DiskOK s)
    (fun s op h => ⟨inv_step s op h.1, blob_files_step s op h.1 h.2⟩) ops init ⟨inv_init, diskOK_init⟩).2

/-! Each deletion removes exactly the rows it owns – those the ORM's cascade declarations reach, as cited
at `dropStream`, `dropFile`, `dropKey` and `dropMps` in the model – and none it shares. -/

/-- **deleting a stream** removes the stream, its media files, their blobs and key
links, the periods that play it and their adaptation sets – exactly those; keys
(shared), multi-period streams and files on disk are untouched. -/
theorem delete_owns_exactly_stream (s : St) (k : Nat) (st : Stream) (h : findStream s k = some st) :
    (delStream s k).2 = .ok ∧
    (∀ x, x ∈ (delStream s k).1.streams ↔ x ∈ s.streams ∧ x.pk ≠ k) ∧
    (∀ f, f ∈ (delStream s k).1.files ↔ f ∈ s.files ∧ f.stream ≠ k) ∧
    (∀ b, b ∈ (delStream s k).1.blobs ↔ b ∈ s.blobs ∧ ¬ ∃ f ∈ s.files, f.stream = k ∧ f.blob = b.pk) ∧
    (∀ l, l ∈ (delStream s k).1.links ↔ l ∈ s.links ∧ ¬ ∃ f ∈ s.files, f.stream = k ∧ f.pk = l.1) ∧
    (∀ p, p ∈ (delStream s k).1.periods ↔ p ∈ s.periods ∧ p.stream ≠ k) ∧
    (∀ a, a ∈ (delStream s k).1.adps ↔ a ∈ s.adps ∧ ¬ ∃ p ∈ s.periods, p.stream = k ∧ p.pk = a.period) ∧
    (delStream s k).1.keys = s.keys ∧ (delStream s k).1.mps = s.mps ∧ (delStream s k).1.disk = s.disk := by
  rw [delStream, h]
  exact ⟨rfl, fun _ => mem_filter_bne, fun _ => mem_filter_bne, fun _ => mem_filter_cascade,
    fun _ => mem_filter_cascade, fun _ => mem_filter_bne, fun _ => mem_filter_cascade, rfl, rfl, rfl⟩

/-- **deleting a media file** removes the file, its blob and its key links –
exactly those; the keys it was linked to (shared) stay, no other media file,
blob, period or adaptation set is touched, nothing is removed from disk, and
the only other change is that the owning stream's timing reference is cleared
when it named this file. -/
theorem delete_owns_exactly_media (s : St) (spk mfid : Nat) (st : Stream) (f : MediaFile)
    (h1 : findStream s spk = some st) (h2 : findFile s mfid = some f) :
    (delMedia s spk mfid).2 = .ok ∧
    (∀ g, g ∈ (delMedia s spk mfid).1.files ↔ g ∈ s.files ∧ g.pk ≠ f.pk) ∧
    (∀ b, b ∈ (delMedia s spk mfid).1.blobs ↔ b ∈ s.blobs ∧ b.pk ≠ f.blob) ∧
    (∀ l, l ∈ (delMedia s spk mfid).1.links ↔ l ∈ s.links ∧ l.1 ≠ f.pk) ∧
    (delMedia s spk mfid).1.streams.map (fun x => (x.pk, x.dir, x.title)) =
      s.streams.map (fun x => (x.pk, x.dir, x.title)) ∧
    (∀ x ∈ s.streams, ¬ (x.pk = f.stream ∧ x.tref = some f.name) → x ∈ (delMedia s spk mfid).1.streams) ∧
    (delMedia s spk mfid).1.keys = s.keys ∧ (delMedia s spk mfid).1.mps = s.mps ∧
    (delMedia s spk mfid).1.periods = s.periods ∧ (delMedia s spk mfid).1.adps = s.adps ∧
    (delMedia s spk mfid).1.disk = s.disk := by
  rw [delMedia, h1, h2]
  refine ⟨rfl, fun _ => mem_filter_bne, fun _ => mem_filter_bne, fun _ => mem_filter_bne,
    map_upd_field _ _ _ _ fun _ => rfl, fun x hx hn => ?_, rfl, rfl, rfl, rfl, rfl⟩
  refine List.mem_map.mpr ⟨x, hx, if_neg fun hc => ?_⟩
  obtain ⟨a, b⟩ := (Bool.and_eq_true _ _).mp hc
  exact hn ⟨beq_iff_eq.mp a, beq_iff_eq.mp b⟩

/-- **deleting a key** removes the key and its links – exactly those; the media
files that used it (keys are shared between files) and everything else stay. -/
theorem delete_owns_exactly_key (s : St) (k : Nat) (key : Key) (h : findKey s k = some key) :
    (delKey s k).2 = .ok ∧
    (∀ x, x ∈ (delKey s k).1.keys ↔ x ∈ s.keys ∧ x.pk ≠ k) ∧
    (∀ l, l ∈ (delKey s k).1.links ↔ l ∈ s.links ∧ l.2 ≠ k) ∧
    (delKey s k).1.streams = s.streams ∧ (delKey s k).1.files = s.files ∧ (delKey s k).1.blobs = s.blobs ∧
    (delKey s k).1.mps = s.mps ∧ (delKey s k).1.periods = s.periods ∧ (delKey s k).1.adps = s.adps ∧
    (delKey s k).1.disk = s.disk := by
  rw [delKey, h]
  exact ⟨rfl, fun _ => mem_filter_bne, fun _ => mem_filter_bne, rfl, rfl, rfl, rfl, rfl, rfl, rfl⟩

/-- **deleting a multi-period stream** removes it, its periods and their
adaptation sets – exactly those; the streams its periods play (shared with
other periods), media files, blobs, keys and links stay. -/
theorem delete_owns_exactly_mps (s : St) (name : String) (m : Mps) (h : findMps s name = some m) :
    (delMps s name).2 = .ok ∧
    (∀ x, x ∈ (delMps s name).1.mps ↔ x ∈ s.mps ∧ x.pk ≠ m.pk) ∧
    (∀ p, p ∈ (delMps s name).1.periods ↔ p ∈ s.periods ∧ p.parent ≠ m.pk) ∧
    (∀ a, a ∈ (delMps s name).1.adps ↔
      a ∈ s.adps ∧ ¬ ∃ p ∈ s.periods, p.parent = m.pk ∧ p.pk = a.period) ∧
    (delMps s name).1.streams = s.streams ∧ (delMps s name).1.files = s.files ∧
    (delMps s name).1.blobs = s.blobs ∧ (delMps s name).1.keys = s.keys ∧
    (delMps s name).1.links = s.links ∧ (delMps s name).1.disk = s.disk := by
  rw [delMps, h]
  exact ⟨rfl, fun _ => mem_filter_bne, fun _ => mem_filter_bne, fun _ => mem_filter_cascade,
    rfl, rfl, rfl, rfl, rfl, rfl⟩

/-- in a consistent store the rows a deletion leaves behind reference no deleted
row: the four deletions above re-establish `Inv` (instances of `inv_step`) -/
theorem delete_leaves_no_dangling (s : St) (h : Inv s) :
    (∀ k, Inv (delStream s k).1) ∧ (∀ k m, Inv (delMedia s k m).1) ∧ (∀ k, Inv (delKey s k).1) ∧
    (∀ n, Inv (delMps s n).1) :=
  ⟨fun k => inv_step s (.delStream k) h, fun k m => inv_step s (.delMedia k m) h,
   fun k => inv_step s (.delKey k) h, fun n => inv_step s (.delMps n) h⟩

/-- a call that does not answer `ok` leaves every table as it is; the only thing it can have done is
write a blob file, and only `editMedia` does, answering `rej` -/
theorem non_ok_changes_no_table (s : St) (op : Op) (h : (step s op).2 ≠ .ok) :
    (step s op).1 = s ∨
    (step s op).2 = .rej ∧ ∃ dir nn c, (step s op).1 = { s with disk := writeDisk s.disk dir nn c } := by
  let P : St × Res → Prop := fun r =>
    r.2 ≠ .ok → r.1 = s ∨ r.2 = .rej ∧ ∃ dir nn c, r.1 = { s with disk := writeDisk s.disk dir nn c }
  have same : ∀ r, P (s, r) := fun _ _ => Or.inl rfl
  have ok : ∀ s', P (s', .ok) := fun _ h => absurd rfl h
  revert h
  show P (step s op)
  cases op with
  | addStream d t => exact ok _
  | editStream k d t r => exact editStream_cases s same k d t r fun _ _ _ _ _ _ _ => ok _
  | delStream k => exact delStream_cases s same k (ok _)
  | setDefaults k v => exact setDefaults_cases s same k v
  | upload k st su c => exact upload_cases s same k st su c fun _ _ _ _ _ => ok _
  | index m => exact index_cases s same m fun _ _ _ _ => ok _
  | editMedia k m t =>
    exact editMedia_cases s same k m t (fun dir nn c _ => Or.inr ⟨rfl, dir, nn, c, rfl⟩)
      fun _ _ _ _ _ _ _ _ => ok _
  | delMedia k m => exact delMedia_cases s same k m fun _ _ => ok _
  | addKey kid c => exact addKey_cases s same kid c fun _ => ok _
  | editKey k c => exact editKey_cases s same k c (ok _)
  | delKey k => exact delKey_cases s same k (ok _)
  | addMps n t ps => exact addMps_cases s same n t ps fun _ _ _ => ok _
  | editMps u b n t ps => exact editMps_cases s same u b n t ps fun _ _ _ _ _ => ok _
  | delMps n => exact delMps_cases s same n fun _ => ok _

/-- an operation that addresses an object that does not exist (`nf`, HTTP 404)
changes nothing at all -/
theorem not_found_changes_nothing (s : St) (op : Op) (h : (step s op).2 = .nf) : (step s op).1 = s :=
  (non_ok_changes_no_table s op (by rw [h]; nofun)).elim id fun ⟨hr, _⟩ => nomatch h.symm.trans hr

/-! ### Non-vacuity: a concrete non-trivial reachable state -/

def exVideo : Content := { idx := true, ctype := 0, track := 1, enc := false, kids := [], badlang := false }
def exAudio : Content := { idx := true, ctype := 1, track := 2, enc := true, kids := ["k1"], badlang := false }

/-- two streams, uploads, indexing (creates a key), timing references, a
multi-period stream with two periods, then: a key deleted, a media file replaced
by an upload of the same name, a stream deleted under a period -/
def exHistory : List Op :=
  [ .addStream "alpha" "A", .addStream "bravo" "B",
    .upload 1 "va" ".mp4" exVideo, .upload 1 "aa" ".mp4" exAudio, .upload 2 "vb" ".mp4" exVideo,
    .index 1, .index 2, .index 3,
    .editStream 1 "alpha" "A" "va", .editStream 2 "bravo" "B" "vb",
    .addMps "mpsone" "MPS" [⟨none, "p1", 1, 1, [1, 2], true⟩, ⟨none, "p2", 2, 2, [1], true⟩],
    .upload 2 "va" ".mp4" exVideo,          -- refused: the name belongs to stream 1 (D15a)
    .delKey 1, .upload 1 "aa" ".mp4" exVideo, .delStream 2 ]

example : (run init exHistory).map (·.2) =
    [.ok, .ok, .ok, .ok, .ok, .ok, .ok, .ok, .ok, .ok, .ok, .rej, .ok, .ok, .ok] := rfl

example : (exec init exHistory).streams = [⟨1, "alpha", "A", some "va"⟩] ∧
    (exec init exHistory).files.map (fun f => (f.pk, f.name, f.blob)) = [(1, "va", 1), (4, "aa", 4)] ∧
    (exec init exHistory).periods.map (fun p => (p.pk, p.pid, p.stream)) = [(1, "p1", 1)] ∧
    (exec init exHistory).adps.map (fun a => (a.pk, a.period, a.track)) = [(1, 1, 1), (2, 1, 2)] ∧
    (exec init exHistory).keys = [] ∧ (exec init exHistory).links = [] := ⟨rfl, rfl, rfl, rfl, rfl, rfl⟩

example : Inv (exec init exHistory) := inv_reachable_init exHistory

/-! ### D15: what the unrepaired code did (negative witnesses, replayed on the real
application before the `fix:` commits – see known_findings.json) -/

/-- `session.delete(stream)` before commit 25b7f26: no cascade to the periods -/
def dropStreamOld (s : St) (k : Nat) : St :=
  let gone := s.files.filter (·.stream == k)
  { s with streams := s.streams.filter (·.pk != k),
           files := s.files.filter (·.stream != k),
           blobs := s.blobs.filter (fun b => !gone.any (·.blob == b.pk)),
           links := s.links.filter (fun l => !gone.any (·.pk == l.1)) }

/-- `session.delete(mf)` before commit 0b30ad8: the timing reference is kept -/
def delMediaOld (s : St) (f : MediaFile) : St := dropFile s f

/-- a state in which both defects show: one stream, its timing-reference file indexed, played by one period -/
def exSmall : St := exec init
  [ .addStream "alpha" "A", .upload 1 "va" ".mp4" exVideo, .index 1, .editStream 1 "alpha" "A" "va",
    .addMps "mpsone" "MPS" [⟨none, "p1", 1, 1, [1], true⟩] ]

example : Inv exSmall := inv_reachable_init _

/-- D15b: deleting the stream left `period.stream_pk` dangling -/
example : ¬ Inv (dropStreamOld exSmall 1) := by
  intro h
  have := h.core.periodStream ⟨1, "p1", 1, 1, 1⟩ (by decide)
  revert this
  decide

/-- D15c: deleting the timing-reference file left the reference dangling -/
example : ¬ Inv (delMediaOld exSmall ⟨1, "va", 1, 1, some ⟨1, 0, false⟩, []⟩) := by
  intro h
  obtain ⟨f, hf, _, _⟩ := h.core.tref ⟨1, "alpha", "A", some "va"⟩ (by decide) "va" rfl
  have he : (delMediaOld exSmall ⟨1, "va", 1, 1, some ⟨1, 0, false⟩, []⟩).files = [] := by decide
  rw [he] at hf
  cases hf

end DashLive.Store
