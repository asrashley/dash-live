import DashLive.Gen.PeriodTimeline
import DashLive.Model.Periods
import DashLive.Props.GenTieTimeline
/-!
# Translated `generate_period_timeline` = C12's model

`Gen/PeriodTimeline.lean` is regenerated from /repo's source text on every run
(`harness/gen_periodtimeline.py`).  `tie_ptLoop` proves the translated `while` loop followed by the
final append equal to `Periods.ptLoop`; `tie_periodTimeline` proves the translated function (early
return for an offset past the media included) equal to `Periods.periodTimeline`, the definition
C12's `mps_timeline_*` theorems are about.
-/
open DashLive DashLive.Segments DashLive.Periods
namespace DashLive.GenTie
open Gen.Timeline Gen.PeriodTimeline

/-- `cs cd cc` are the fields of the node being filled, `rv` the Python list whose `conv` image is
`acc`, `mm` the `mod_segment` a node carries (not in the model); `finishG` is the final append -/
theorem tie_ptLoop (durs : List Nat) (durUs ts : Nat) :
    ∀ (fuel m pos : Nat) (cs cd : Option Int) (cc : Nat) (acc : List SNode)
      (rv : List SegmentTimelineElement) (mm : Int),
      rv.map conv = acc →
      finishG (generatePeriodTimeline_while1 (segDurOf durs) (usecs := (durUs : Int))
          (num_media_segments := durs.length) (timescale := (ts : Int)) fuel
          cs rv cd (cc : Int) mm (pos : Int) ((m : Int) + 1))
        = ptLoop durs (durUs * ts) fuel m pos { start := cs, dur := cd, count := cc } acc := by
  intro fuel
  induction fuel with
  | zero =>
    intro m pos cs cd cc acc rv mm h
    subst h
    exact finishG_eq cs cd cc mm _ _ rv
  | succ f ih =>
    intro m pos cs cd cc acc rv mm h
    subst h
    unfold generatePeriodTimeline_while1 ptLoop
    have hc : (((m : Int) + 1 ≤ (durs.length : Int)) ∧ ((pos : Int) * (1000000 : Int) < (durUs : Int) * (ts : Int)))
        ↔ (m < durs.length ∧ pos * 1000000 < durUs * ts) := by
      constructor <;> rintro ⟨h1, h2⟩ <;> exact ⟨by omega, by exact_mod_cast h2⟩
    by_cases hlt : m < durs.length ∧ pos * 1000000 < durUs * ts
    · rw [if_pos (hc.mpr hlt), if_pos hlt, segDurOf_succ]
      dsimp only
      cases cd with
      | none =>
        simp only [if_true, Option.isNone_none]
        simpa only [Int.natCast_add, Int.natCast_one] using
          ih (m + 1) (pos + durAt durs m) (some (pos : Int)) (some ((durAt durs m : Nat) : Int)) (cc + 1) _ rv mm rfl
      | some v =>
        have hv : ¬ ((some v : Option Int) = none) := by simp
        simp only [if_neg hv, Option.isNone_some, Bool.false_eq_true, if_false]
        by_cases hne : some ((durAt durs m : Nat) : Int) ≠ some v
        · simp only [if_pos hne]
          -- a node is put out: `finishG_eq` is the hypothesis `rv.map conv = acc` for the two lists after the append
          have key := ih (m + 1) (pos + durAt durs m) none (some ((durAt durs m : Nat) : Int)) (0 + 1) _ _ ((m : Int) + 1)
            (finishG_eq cs (some v) cc mm 0 0 rv)
          simp only [Int.natCast_add, Int.natCast_one, Int.natCast_zero] at key
          exact key
        · simp only [if_neg hne]
          simpa only [Int.natCast_add, Int.natCast_one] using
            ih (m + 1) (pos + durAt durs m) cs (some ((durAt durs m : Nat) : Int)) (cc + 1) _ rv mm rfl
    · rw [if_neg (fun hh => hlt (hc.mp hh)), if_neg hlt]
      exact finishG_eq cs cd cc mm _ _ rv

/-- `Representation.generate_period_timeline` as translated from the source = `Periods.periodTimeline` -/
theorem tie_periodTimeline (durs : List Nat) (refDur refTs ts startTc durUs : Nat) :
    (generatePeriodTimeline (segDurOf durs) refDur refTs ts durs.length startTc durUs (durs.length + 1)).map conv
      = periodTimeline durs (refDuration refDur refTs ts) ts startTc durUs := by
  unfold generatePeriodTimeline Gen.PeriodTimeline.gsi periodTimeline
  dsimp only
  rw [tie_getSegmentIndex]
  dsimp only
  -- the translated code carries `mod_segment` (1-based), the model `m = mod_segment − 1`; that the search returns
  -- some `m + 1` (by definition) is all that is used of it
  have h1 : 1 ≤ (Segments.getSegmentIndex durs (refDuration refDur refTs ts) startTc).1 := Nat.le_add_left 1 _
  generalize Segments.getSegmentIndex durs (refDuration refDur refTs ts) startTc = r at h1 ⊢
  by_cases ho : r.2.2 > 0
  · rw [if_pos (Int.natCast_pos.mpr ho), if_pos ho]; rfl
  · rw [if_neg fun h => ho (Int.natCast_pos.mp h), if_neg ho]
    have h2 : (r.1 : Int) = ((r.1 - 1 : Nat) : Int) + 1 := by omega
    have key := tie_ptLoop durs durUs ts (durs.length + 1) (r.1 - 1) 0 none none 0 [] [] (r.1 : Int) rfl
    rw [Int.natCast_zero, ← h2] at key
    exact key

end DashLive.GenTie
