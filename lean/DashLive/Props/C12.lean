import DashLive.Lemmas.Periods
/-!
# C12 – multi-period presentations tile the timeline and play the right media

The property theorems and the request theorems they are cases of: `mps_number_any` for `$Number$`,
`mps_time_maps` for `$Time$` (every `t`).

Units: period starts/durations, `E` (elapsedTime = now − availabilityStartTime) and
`F` (firstAvailableTime = `E` − timeShiftBufferDepth) are microseconds.  For the media
requests `durs` are the stored segment durations of one track (ticks of its timescale),
`R` the stream's reference duration in that timescale, `tc` the period's source offset in
that timescale, `sn` the track's `start_number`, `st` its first decode time, `sd` its
`segment_duration` (SegmentTemplate@duration) and `ts` its timescale.

Hypotheses that appear below (all explicit and decidable):
* `0 < totalDuration ps` – the presentation has a positive total duration.  Excluded point:
  total duration 0, where the builder raises `ZeroDivisionError` (and its loop, were it
  reached, would never leave): `live_zero_duration`.
* `nl * totalDuration ps ≤ F` – the loop count the float floor-division produced is not too
  large: true of `⌊F / D⌋` (`live_periods_exact`) and of one below it, the two values that division
  can give (`Model/Periods.lean`).  Excluded point: `live_cover_needs_loop_count`.
* `StartsInsideLoop durs R`, `PositiveDurs durs` – the C02 hypotheses H1, H2 (every stored
  segment starts inside one loop of the timing reference and is not empty); used only by the
  `$Time$` / SegmentTimeline theorems, where a listed time must resolve to its own segment.
* `durUs * ts ≤ (n − i₀) · sd · 10⁶` – the Period is not longer than what the `n − i₀` source
  segments from the selected one can be numbered for; this is *exactly* the condition
  under which every admitted number is served (`mps_admitted_tight`), and it follows from
  "source offset + duration + half a segment ≤ media duration" for a template duration
  that is not below the mean segment duration (`mps_admitted_of_fits`).
-/
namespace DashLive.Periods
open DashLive.Segments

/-! ## VOD: `create_all_vod_periods` -/

/-- the listed Periods are the defined ones, in order, with their ids and durations -/
theorem vod_periods_faithful (ps : List PeriodDef) :
    (vodPeriods ps).length = ps.length ∧
    ∀ i (h : i < (vodPeriods ps).length) (h' : i < ps.length),
      (vodPeriods ps)[i].id = ps[i].pid ∧ (vodPeriods ps)[i].dur = ps[i].dur := by
  refine ⟨vodPeriods_length ps, fun i h h' => ?_⟩
  rw [vodPeriods_getElem ps i h]
  exact ⟨rfl, rfl⟩

/-- **VOD Periods are contiguous**: the first starts at 0 and each next one starts where
the previous one ends -/
theorem vod_periods_contiguous (ps : List PeriodDef) :
    (∀ (h : 0 < (vodPeriods ps).length), (vodPeriods ps)[0].start = 0) ∧
    ∀ i (h : i + 1 < (vodPeriods ps).length),
      (vodPeriods ps)[i + 1].start = (vodPeriods ps)[i].start + (vodPeriods ps)[i].dur := by
  have hl := vodPeriods_length ps
  refine ⟨fun h => ?_, fun i h => ?_⟩
  · rw [vodPeriods_getElem ps 0 h]
    exact prefixSum_zero (durations ps)
  · rw [vodPeriods_getElem ps (i + 1) h, vodPeriods_getElem ps i (Nat.lt_of_succ_lt h),
      ← durAt_durations ps i (by omega)]
    exact prefixSum_succ (by rw [durations_length]; omega)

/-- **Σ Period durations = mediaPresentationDuration** (and both equal the total duration
of the definition) -/
theorem vod_periods_sum (ps : List PeriodDef) :
    vodMediaDuration ps = ((vodPeriods ps).map (·.dur)).sum ∧
    vodMediaDuration ps = totalDuration ps := by
  have h2 : vodMediaDuration ps = totalDuration ps := by
    unfold vodMediaDuration; rw [vodLoop_end]; omega
  refine ⟨?_, h2⟩
  rw [h2]
  unfold vodPeriods totalDuration
  rw [vodLoop_durs]

/-- the last VOD Period ends at mediaPresentationDuration -/
theorem vod_periods_end (ps : List PeriodDef) (h : 0 < (vodPeriods ps).length) :
    (vodPeriods ps)[(vodPeriods ps).length - 1].start + (vodPeriods ps)[(vodPeriods ps).length - 1].dur
      = vodMediaDuration ps := by
  have hl := vodPeriods_length ps
  rw [(vod_periods_sum ps).2, vodPeriods_getElem ps _ (Nat.sub_lt h Nat.one_pos),
    ← durAt_durations ps _ (by omega)]
  exact prefixSum_last (by rw [durations_length]; omega)

/-- **what the manifest writes is exact** (fix 983f9d5): the builders work on the presentation
durations (stored durations rounded to a millisecond), so every VOD Period start, duration
and the mediaPresentationDuration are whole milliseconds – the resolution of the
`xs:duration` text – and each duration is within half a millisecond of the stored one
(`quantise_near`) -/
theorem vod_periods_whole_ms (ps : List PeriodDef) :
    (∀ p, p ∈ vodPeriods (presented ps) → 1000 ∣ p.start ∧ 1000 ∣ p.dur) ∧
    1000 ∣ vodMediaDuration (presented ps) := by
  have hd := presented_durations_dvd ps
  constructor
  · intro p hp
    obtain ⟨i, hi, rfl⟩ := List.getElem_of_mem hp
    have hl := vodPeriods_length (presented ps)
    rw [vodPeriods_getElem (presented ps) i hi]
    refine ⟨prefixSum_dvd _ 1000 _ hd, hd _ ?_⟩
    unfold durations
    exact List.mem_map.mpr ⟨_, List.getElem_mem (by omega), rfl⟩
  · rw [(vod_periods_sum (presented ps)).2]
    exact sum_dvd _ 1000 hd

/-! ## live: `create_all_live_periods` -/

/-- **the live loop terminates** whenever the total duration is positive, for every clock,
window and loop count -/
theorem live_periods_terminate (ps : List PeriodDef) (E F nl : Nat) (hD : 0 < totalDuration ps) :
    ∃ l, livePeriodsFrom ps E F nl = some l := by
  have hn := length_pos_of_totalDuration_pos hD
  rw [livePeriodsFrom_state ps E F nl hn]
  exact liveLoop_terminates ps E F hn hD _ _ (by unfold liveFuel; omega) (by unfold liveFuel; omega)

/-- **live Periods are contiguous**: each listed Period starts where the previous one ends
(for any loop count the float division may have produced) -/
theorem live_periods_contiguous (ps : List PeriodDef) (E F nl : Nat) (l : List OutPeriod)
    (hD : 0 < totalDuration ps) (h : livePeriodsFrom ps E F nl = some l) :
    ∀ i (hi : i + 1 < l.length), l[i + 1].start = l[i].start + l[i].dur := by
  have hn := length_pos_of_totalDuration_pos hD
  obtain ⟨s, e, _, rfl⟩ := livePeriodsFrom_char hn h
  intro i hi
  simp only [List.getElem_map, List.getElem_range', Nat.one_mul]
  exact (periodAt_end ps (s + i) hn).symm

/-- **live Periods cover the time-shift window up to now**: the list is not empty, its first
Period starts at or before `firstAvailableTime`, no Period starts after now, and every
instant `t ∈ [F, E]` lies inside a listed Period.  Needs a positive total duration and a
loop count that is not too large. -/
theorem live_periods_cover (ps : List PeriodDef) (E F nl : Nat) (l : List OutPeriod)
    (hD : 0 < totalDuration ps) (hnl : nl * totalDuration ps ≤ F) (hFE : F ≤ E)
    (h : livePeriodsFrom ps E F nl = some l) :
    (∃ hne : l ≠ [], (l.head hne).start ≤ F ∧
        (l.getLast hne).start ≤ E ∧ E < (l.getLast hne).start + (l.getLast hne).dur) ∧
    (∀ p, p ∈ l → p.start ≤ E ∧ F ≤ p.start + p.dur) ∧
    ∀ t, F ≤ t → t ≤ E → ∃ p, p ∈ l ∧ p.start ≤ t ∧ t < p.start + p.dur := by
  have hn := length_pos_of_totalDuration_pos hD
  obtain ⟨s, e, w, rfl⟩ := livePeriodsFrom_char hn h
  have h0 : (periodAt ps (nl * ps.length)).start ≤ F := by rw [periodAt_loop_start ps nl hn]; exact hnl
  have hse := w.lt h0 hFE
  have hs := w.le_s
  obtain ⟨k, rfl⟩ : ∃ k, e = k + 1 := ⟨e - 1, by omega⟩
  have hlast : s + (k + 1 - s) - 1 = k := by omega
  have hne : List.range' s (k + 1 - s) ≠ [] := by rw [ne_eq, List.range'_eq_nil_iff]; omega
  refine ⟨⟨by rwa [ne_eq, List.map_eq_nil_iff], ?_, ?_, ?_⟩, ?_, ?_⟩
  · rw [List.head_map, List.head_range']
    exact w.first_le h0
  · rw [List.getLast_map, List.getLast_range', hlast]
    exact w.start_le k (by omega) (Nat.lt_succ_self k)
  · rw [List.getLast_map, List.getLast_range', hlast, periodAt_end ps k hn]
    exact w.lt_start
  · intro p hp
    obtain ⟨x, h1, h2, rfl⟩ := mem_map_range'.mp hp
    exact ⟨w.start_le x (Nat.le_trans w.le_s h1) h2, by rw [periodAt_end ps x hn]; exact w.le_end x h1 h2⟩
  · intro t ht1 ht2
    obtain ⟨x, h1, h2, h3, h4⟩ := w.cover h0 t ht1 ht2
    exact ⟨periodAt ps x, mem_map_range'.mpr ⟨x, h1, h2, rfl⟩, h3, by rw [periodAt_end ps x hn]; exact h4⟩

/-- every listed live Period is one of the defined Periods, with its duration, and its id is
`pid_loop` -/
theorem live_periods_source (ps : List PeriodDef) (E F nl : Nat) (l : List OutPeriod)
    (hD : 0 < totalDuration ps) (h : livePeriodsFrom ps E F nl = some l) :
    ∀ p, p ∈ l → ∃ q, q ∈ ps ∧ ∃ k, nl ≤ k ∧ p.id = renderId q.pid k ∧ p.dur = q.dur := by
  have hn := length_pos_of_totalDuration_pos hD
  obtain ⟨s, e, w, rfl⟩ := livePeriodsFrom_char hn h
  intro p hp
  obtain ⟨x, hx, _, rfl⟩ := mem_map_range'.mp hp
  rw [periodAt_eq ps x hn]
  exact ⟨_, List.getElem_mem (Nat.mod_lt x hn), x / ps.length,
    (Nat.le_div_iff_mul_le hn).mpr (Nat.le_trans w.le_s hx), rfl, rfl⟩

/-- **live ids are unique per repetition**: when the pids are unique within the stream (the
DB constraint `single_period_id_per_mp_stream`) no two listed Periods share an id -/
theorem live_ids_unique (ps : List PeriodDef) (E F nl : Nat) (l : List OutPeriod)
    (hD : 0 < totalDuration ps) (hp : (ps.map (·.pid)).Nodup)
    (h : livePeriodsFrom ps E F nl = some l) :
    (l.map (·.id)).Nodup := by
  have hn := length_pos_of_totalDuration_pos hD
  obtain ⟨s, e, _, rfl⟩ := livePeriodsFrom_char hn h
  rw [List.map_map]
  unfold List.Nodup
  rw [List.pairwise_map]
  refine List.Pairwise.imp ?_ (List.pairwise_lt_range' (s := s) (n := e - s))
  intro x y hxy heq
  simp only [Function.comp, periodAt_eq ps _ hn] at heq
  -- equal ids: the same pid, hence the same index, and the same loop number
  obtain ⟨h1, h2⟩ := renderId_inj heq
  have h3 : (ps.map (·.pid))[x % ps.length]'(by rw [List.length_map]; exact Nat.mod_lt x hn) =
      (ps.map (·.pid))[y % ps.length]'(by rw [List.length_map]; exact Nat.mod_lt y hn) := by
    simp only [List.getElem_map]
    exact h1
  have h4 := (List.getElem_inj hp).mp h3
  have := Nat.div_add_mod x ps.length
  have := Nat.div_add_mod y ps.length
  rw [h2, h4] at *
  omega

/-- every listed live Period starts and lasts a whole number of milliseconds (fix 983f9d5) -/
theorem live_periods_whole_ms (ps : List PeriodDef) (E F nl : Nat) (l : List OutPeriod)
    (hD : 0 < totalDuration (presented ps)) (h : livePeriodsFrom (presented ps) E F nl = some l) :
    ∀ p, p ∈ l → 1000 ∣ p.start ∧ 1000 ∣ p.dur := by
  have hn := length_pos_of_totalDuration_pos hD
  have hd := presented_durations_dvd ps
  obtain ⟨s, e, _, rfl⟩ := livePeriodsFrom_char hn h
  intro p hp
  obtain ⟨x, _, _, rfl⟩ := mem_map_range'.mp hp
  rw [periodAt_eq _ x hn]
  exact ⟨startG_dvd _ 1000 _ hd, hd _ (List.mem_map.mpr ⟨_, List.getElem_mem _, rfl⟩)⟩

/-- the bound the guard relies on, for any loop count: a terminating run lists at most
`len · (1 + ⌊(E − nl·D) / D⌋)` Periods -/
theorem live_periods_bounded (ps : List PeriodDef) (E F nl : Nat) (l : List OutPeriod)
    (hD : 0 < totalDuration ps) (hnl : nl * totalDuration ps ≤ E)
    (h : livePeriodsFrom ps E F nl = some l) :
    l.length ≤ ps.length * (1 + (E - nl * totalDuration ps) / totalDuration ps) := by
  have hn := length_pos_of_totalDuration_pos hD
  obtain ⟨s, e, w, rfl⟩ := livePeriodsFrom_char hn h
  have hnle : nl ≤ E / totalDuration ps := (Nat.le_div_iff_mul_le hD).mpr hnl
  -- the last emitted position lies in a loop that starts at or before E
  have he : e ≤ (E / totalDuration ps + 1) * ps.length := by
    refine Nat.le_of_not_lt fun hlt => ?_
    have h1 := w.start_le _ (Nat.mul_le_mul_right _ (by omega)) hlt
    have h2 := lt_periodAt_start ps E _ hD hn (Nat.le_refl _)
    omega
  -- so the list lies within the positions `[nl · len, (E / D + 1) · len)`, which are `E / D + 1 − nl` loops
  have hcount : e - s ≤ (E / totalDuration ps + 1 - nl) * ps.length := by
    rw [Nat.sub_mul]; exact Nat.le_trans (Nat.sub_le_sub_right he _) (Nat.sub_le_sub_left w.le_s _)
  rw [List.length_map, List.length_range', Nat.mul_comm nl, Nat.sub_mul_div, Nat.mul_comm]
  exact Nat.le_trans hcount (Nat.mul_le_mul_right _ (by omega))

/-- **the builder as it runs** (exact floors): for a positive total duration it either refuses
the manifest because more than `MAX_LIVE_PERIODS` Period elements would be needed (fix
e70c912; `ManifestNotAvailable` → 404), or returns a list – which then has all the properties
above (the loop count it used satisfies `nl · D ≤ F`) and at most `MAX_LIVE_PERIODS` entries -/
theorem live_periods_exact (ps : List PeriodDef) (E F : Nat) (hD : 0 < totalDuration ps) (hFE : F ≤ E) :
    (ps.length * (1 + (E - totalDuration ps * (F / totalDuration ps)) / totalDuration ps) > maxLivePeriods ∧
      livePeriods ps E F = .tooMany) ∨
    ∃ l, livePeriods ps E F = .ok l ∧
      livePeriodsFrom ps E F (F / totalDuration ps) = some l ∧
      F / totalDuration ps * totalDuration ps ≤ F ∧ l.length ≤ maxLivePeriods := by
  obtain ⟨l, hl⟩ := live_periods_terminate ps E F (F / totalDuration ps) hD
  have hle := Nat.div_mul_le_self F (totalDuration ps)
  by_cases hg : ps.length * (1 + (E - totalDuration ps * (F / totalDuration ps)) / totalDuration ps) > maxLivePeriods
  · left
    refine ⟨hg, ?_⟩
    unfold livePeriods livePeriodsGuarded
    simp only [Nat.ne_of_gt hD, if_false, hg, if_true]
  · right
    refine ⟨l, ?_, hl, hle, ?_⟩
    · unfold livePeriods livePeriodsGuarded
      simp only [Nat.ne_of_gt hD, if_false, hg, hl]
    · have := live_periods_bounded ps E F (F / totalDuration ps) l hD (by omega) hl
      rw [Nat.mul_comm (F / totalDuration ps)] at this
      omega

/-- total duration 0 (all durations zero, or no Periods): the loop-count division raises
`ZeroDivisionError` – no manifest; and the loop itself, were it reached, would never
leave (`liveLoop_zero_diverges`) -/
theorem live_zero_duration (ps : List PeriodDef) (E F : Nat) (hD : totalDuration ps = 0) :
    livePeriods ps E F = .zeroDivision ∧
    (0 < ps.length → ∀ fuel, liveLoop ps E F fuel 0 0 0 = none) := by
  refine ⟨by unfold livePeriods livePeriodsGuarded; simp [hD], ?_⟩
  intro hn fuel
  have := liveLoop_zero_diverges ps E F hn hD fuel (0 * ps.length)
  rwa [periodAt_loop_start ps 0 hn, Nat.zero_mul, Nat.zero_mul, Nat.zero_mod, Nat.zero_div] at this

/-- two Periods of 20 s and 12 s, 47 s after availabilityStartTime with a 30 s window -/
example : livePeriods [⟨['p', '1'], 20000000⟩, ⟨['p', '2'], 12000000⟩] 47000000 17000000
    = .ok [⟨['p', '1', '_', '0'], 0, 20000000⟩, ⟨['p', '2', '_', '0'], 20000000, 12000000⟩,
           ⟨['p', '1', '_', '1'], 32000000, 20000000⟩] := by decide

example : 0 < totalDuration [⟨['p', '1'], 20000000⟩, ⟨['p', '2'], 12000000⟩] ∧
    (17000000 / 32000000) * totalDuration [⟨['p', '1'], 20000000⟩, ⟨['p', '2'], 12000000⟩] ≤ 17000000 ∧
    (([⟨['p', '1'], 20000000⟩, ⟨['p', '2'], 12000000⟩] : List PeriodDef).map (·.pid)).Nodup := by decide

/-- excluded point of `hD`: a Period of duration 0 only – `ZeroDivisionError`, and fuel
exhaustion of the bare loop -/
example : livePeriods [⟨['p'], 0⟩] 5 0 = .zeroDivision ∧ liveLoop [⟨['p'], 0⟩] 5 0 64 0 0 0 = none := by
  decide

/-- excluded point of `hnl`: a loop count one too large leaves `[F, start)` uncovered -/
theorem live_cover_needs_loop_count :
    livePeriodsFrom [⟨['p'], 10⟩] 25 15 2 = some [⟨['p', '_', '2'], 20, 10⟩] ∧
    ¬ (∀ t, 15 ≤ t → t ≤ 25 → ∃ p, p ∈ [(⟨['p', '_', '2'], 20, 10⟩ : OutPeriod)] ∧
        p.start ≤ t ∧ t < p.start + p.dur) := by
  refine ⟨by decide, ?_⟩
  intro h
  obtain ⟨p, hp, h1, _⟩ := h 15 (by omega) (by omega)
  simp at hp
  subst hp
  simp at h1

/-! ## media requests inside a Period: `ServeMpsMedia` -/

/-- the period offset in the track's timescale is the floor of the exact rescale -/
theorem mps_offset_floor (startRef ts refTs : Nat) (h : 0 < refTs) :
    mpsStartTc startRef ts refTs * refTs ≤ startRef * ts ∧
    startRef * ts < (mpsStartTc startRef ts refTs + 1) * refTs := by
  unfold mpsStartTc
  by_cases hq : ts = refTs
  · subst hq
    rw [if_neg (not_not.mpr rfl), Nat.add_mul, Nat.one_mul]
    exact ⟨Nat.le_refl _, Nat.lt_add_of_pos_right h⟩
  · rw [if_pos hq, Nat.add_mul, Nat.one_mul]
    exact ⟨Nat.div_mul_le_self _ _, Nat.lt_div_mul_add h⟩

/-- **the counting origin is the segment whose start is nearest the Period's source
offset**: when the search stays inside the media (`i₀ < n`, i.e. the Period is not refused),
no stored segment starts nearer to `tc` than segment `i₀` (ties go to the earlier one) -/
theorem mps_start_nearest (durs : List Nat) (R tc : Nat) (hR : 0 < R) (hn : 0 < durs.length)
    (hin : index durs R tc < durs.length) :
    ∀ j, j ≤ durs.length → dist (prefixSum durs (index durs R tc)) tc ≤ dist (prefixSum durs j) tc :=
  fun j _ => nearest_of_midpoints durs tc _ hin (le_midpoint_index durs R tc hR hn hin)
    (fun _ => midpoint_lt_of_lt_index durs R tc hR hn hin) j

/-- **every integer `$Number$` request of a Period**: served, from source segment `i₀ + (num − sn)`,
exactly when `sn ≤ num` and that segment is stored, else 404.  The `$Number$` theorems below are its
cases `num = sn + k` and `num < sn`. -/
theorem mps_number_any (durs : List Nat) (R sn tc st : Nat) (num : Int) (hR : 0 < R)
    (hn : 0 < durs.length) :
    mpsRequest durs (some fun j => st + prefixSum durs j) R sn tc (.number num) =
      if (sn : Int) ≤ num ∧ index durs R tc + (num - sn).toNat < durs.length then
        .segment (index durs R tc + (num - sn).toNat)
          ((st : Int) + ((prefixSum durs (index durs R tc + (num - sn).toNat)
            - prefixSum durs (index durs R tc) : Nat) : Int)) num
      else .notFound := by
  unfold mpsRequest
  rw [mpsIndex_number durs R sn tc num hR hn]
  have hm := prefixSum_mono durs (Nat.le_add_right (index durs R tc) (num - sn).toNat)
  generalize index durs R tc = i at *
  by_cases h : (sn : Int) ≤ num ∧ i + (num - sn).toNat < durs.length
  · have e : (i : Int) + 1 + (num - sn) = ((i + (num - sn).toNat : Nat) : Int) + 1 := by omega
    rw [if_pos h, if_neg (Nat.not_le.mpr (Nat.lt_of_le_of_lt (Nat.le_add_right _ _) h.2)),
      if_neg (Int.not_lt.mpr h.1), e, if_neg (by omega), mpsServe_segment durs _ _ _ num h.2 (by omega)]
    congr 1
    omega
  · -- one of the three refusals of `mpsIndex` applies
    rw [if_neg h]
    by_cases hq : durs.length ≤ i
    · rw [if_pos hq]; rfl
    by_cases hlt : num < sn
    · rw [if_neg hq, if_pos hlt]; rfl
    · rw [if_neg hq, if_neg hlt, if_pos (by omega)]; rfl

/-- **number `sn + k` of a Period delivers source segment `i₀ + k`** (0-based; `i₀` = the
position `get_segment_index` selects for the Period's source offset), with
`mfhd.sequence_number = sn + k` and decode time `st + P_{i₀+k} − P_{i₀}`; when `i₀ + k`
is past the last stored segment – or the offset itself is past the media – the answer is
404.  For *every* offset, number and track; the stored `tfdt`s are `st + P_j` (what indexing
records for a file whose first decode time is `st`). -/
theorem mps_number_maps (durs : List Nat) (R sn tc st k : Nat) (hR : 0 < R) (hn : 0 < durs.length) :
    mpsRequest durs (some fun j => st + prefixSum durs j) R sn tc (.number ((sn : Int) + k)) =
      if index durs R tc + k < durs.length then
        .segment (index durs R tc + k)
          ((st : Int) + ((prefixSum durs (index durs R tc + k) - prefixSum durs (index durs R tc) : Nat) : Int))
          ((sn : Int) + k)
      else .notFound := by
  have h0 : (sn : Int) ≤ sn + k := by omega
  have e : ((sn : Int) + k - sn).toNat = k := by omega
  rw [mps_number_any durs R sn tc st _ hR hn, e]
  simp only [h0, true_and]

/-- the same for a file without `tfdt` boxes (the handler synthesises `Σ durations before`) -/
theorem mps_number_maps_no_tfdt (durs : List Nat) (R sn tc k : Nat) (hR : 0 < R) (hn : 0 < durs.length) :
    mpsRequest durs none R sn tc (.number ((sn : Int) + k)) =
      if index durs R tc + k < durs.length then
        .segment (index durs R tc + k)
          (((prefixSum durs (index durs R tc + k) - prefixSum durs (index durs R tc) : Nat) : Int))
          ((sn : Int) + k)
      else .notFound := by
  have hs : mpsServe durs none = mpsServe durs (some fun j => 0 + prefixSum durs j) := by
    funext r; cases r <;> simp only [mpsServe, Nat.zero_add]
  have h := mps_number_maps durs R sn tc 0 k hR hn
  unfold mpsRequest at h ⊢
  rw [hs, h, Int.natCast_zero]
  simp only [Int.zero_add]

/-- **decode times count from zero at the Period start**: the first number of a Period is
served with the file's first decode time (`0` for every stored track with `st = 0`) -/
theorem mps_decode_zero (durs : List Nat) (R sn tc st : Nat) (hR : 0 < R) (hn : 0 < durs.length)
    (hin : index durs R tc < durs.length) :
    mpsRequest durs (some fun j => st + prefixSum durs j) R sn tc (.number sn) =
      .segment (index durs R tc) st sn := by
  have := mps_number_maps durs R sn tc st 0 hR hn
  simpa [hin] using this

/-- **gapless from one number to the next**: the decode time of number `sn + k + 1` is that of
`sn + k` plus the duration of the source segment delivered for `sn + k` -/
theorem mps_decode_gapless (durs : List Nat) (R sn tc st k : Nat) (hR : 0 < R) (hn : 0 < durs.length)
    (hin : index durs R tc + k + 1 < durs.length) :
    ∃ t : Int,
      mpsRequest durs (some fun j => st + prefixSum durs j) R sn tc (.number ((sn : Int) + k)) =
        .segment (index durs R tc + k) t ((sn : Int) + k) ∧
      mpsRequest durs (some fun j => st + prefixSum durs j) R sn tc (.number ((sn : Int) + (k + 1 : Nat))) =
        .segment (index durs R tc + k + 1) (t + durAt durs (index durs R tc + k)) ((sn : Int) + (k + 1 : Nat)) := by
  have hs := prefixSum_succ (durs := durs) (k := index durs R tc + k) (by omega)
  have hm := prefixSum_mono durs (Nat.le_add_right (index durs R tc) k)
  have h1 := mps_number_maps durs R sn tc st k hR hn
  rw [if_pos (by omega)] at h1
  refine ⟨_, h1, ?_⟩
  rw [mps_number_maps durs R sn tc st (k + 1) hR hn, if_pos (by omega), ← Nat.add_assoc, hs]
  congr 1
  omega

/-- **requests beyond the end of the source media are refused with 404** -/
theorem mps_beyond_end_404 (durs : List Nat) (R sn tc st k : Nat) (hR : 0 < R) (hn : 0 < durs.length)
    (h : durs.length ≤ index durs R tc + k) :
    mpsRequest durs (some fun j => st + prefixSum durs j) R sn tc (.number ((sn : Int) + k)) = .notFound := by
  rw [mps_number_maps durs R sn tc st k hR hn]
  simp only [Nat.not_lt.mpr h, if_false]

/-- a number below the Period's first number is refused with 404 (fix 7f6dd57), and no
`$Number$` request at all ends in an uncontrolled failure -/
theorem mps_number_never_crashes (durs : List Nat) (R sn tc st : Nat) (num : Int) (hR : 0 < R)
    (hn : 0 < durs.length) :
    (num < sn → mpsRequest durs (some fun j => st + prefixSum durs j) R sn tc (.number num) = .notFound) ∧
    mpsRequest durs (some fun j => st + prefixSum durs j) R sn tc (.number num) ≠ .crash := by
  rw [mps_number_any durs R sn tc st num hR hn]
  refine ⟨fun h => if_neg fun h' => by omega, ?_⟩
  split <;> exact fun h => by cases h

/-- **every number the Period's duration admits is served** – `k` is admitted when segment
`k` of the template starts inside the Period (`k · sd / ts < duration`) – provided the Period
is not longer than what the source segments from the selected one can be numbered for. -/
theorem mps_admitted_partial (durs : List Nat) (R sn tc st sd ts durUs : Nat) (hR : 0 < R)
    (hn : 0 < durs.length)
    (hfit : durUs * ts ≤ (durs.length - index durs R tc) * sd * 1000000) :
    ∀ k, k * sd * 1000000 < durUs * ts →
      ∃ t : Int, mpsRequest durs (some fun j => st + prefixSum durs j) R sn tc (.number ((sn : Int) + k)) =
        .segment (index durs R tc + k) t ((sn : Int) + k) := by
  intro k hk
  have h2 : k < durs.length - index durs R tc :=
    Nat.lt_of_mul_lt_mul_right (Nat.lt_of_mul_lt_mul_right (Nat.lt_of_lt_of_le hk hfit))
  rw [mps_number_maps durs R sn tc st k hR hn, if_pos (by omega)]
  exact ⟨_, rfl⟩

/-- … and the side condition is exactly what is needed: when it fails, the admitted number
`sn + (n − i₀)` is answered 404 -/
theorem mps_admitted_tight (durs : List Nat) (R sn tc st sd ts durUs : Nat) (hR : 0 < R)
    (hn : 0 < durs.length)
    (hfit : ¬ durUs * ts ≤ (durs.length - index durs R tc) * sd * 1000000) :
    (durs.length - index durs R tc) * sd * 1000000 < durUs * ts ∧
    mpsRequest durs (some fun j => st + prefixSum durs j) R sn tc
      (.number ((sn : Int) + (durs.length - index durs R tc : Nat))) = .notFound := by
  refine ⟨by omega, ?_⟩
  apply mps_beyond_end_404 durs R sn tc st _ hR hn
  omega

/-- the side condition from natural ones: the Period starts inside the media, "source offset
+ half a segment + duration" does not pass the end of the track, and the template duration
is not below the mean duration of the remaining source segments -/
theorem mps_admitted_of_fits (durs : List Nat) (R tc sd ts durUs : Nat) (hR : 0 < R)
    (hn : 0 < durs.length) (hin : index durs R tc < durs.length)
    (hend : (tc + (maxDur durs + 1) / 2) * 1000000 + durUs * ts ≤ durs.sum * 1000000)
    (hsd : durs.sum - prefixSum durs (index durs R tc) ≤ (durs.length - index durs R tc) * sd) :
    durUs * ts ≤ (durs.length - index durs R tc) * sd * 1000000 := by
  have hsnap := start_le_of_midpoints durs tc _ hin fun _ => midpoint_lt_of_lt_index durs R tc hR hn hin
  have hle := prefixSum_le_sum durs (index durs R tc)
  generalize index durs R tc = i at *
  have h1 : durUs * ts ≤ (durs.sum - prefixSum durs i) * 1000000 := by
    rw [Nat.sub_mul]; omega
  exact Nat.le_trans h1 (Nat.mul_le_mul_right _ hsd)

/-- **`$Time$ = t` of a Period** (fixes 3d7a0df, 488ab59): times count from the start of the
Period's first segment `i₀`; the request delivers the stored segment `g` whose start is
nearest `P_{i₀} + t`, with the decode time and number it has under `$Number$` addressing
(`st + P_g − P_{i₀}`, `sn + g − i₀`); anything that maps past the last stored segment – or a
Period that starts past the media – is 404. -/
theorem mps_time_maps (durs : List Nat) (R sn tc st t : Nat) (hn : 0 < durs.length)
    (h1 : StartsInsideLoop durs R) (h2 : PositiveDurs durs) :
    mpsRequest durs (some fun j => st + prefixSum durs j) R sn tc (.time t) =
      if index durs R tc < durs.length ∧
          index durs R (prefixSum durs (index durs R tc) + t) < durs.length then
        .segment (index durs R (prefixSum durs (index durs R tc) + t))
          ((st : Int) + ((prefixSum durs (index durs R (prefixSum durs (index durs R tc) + t))
            - prefixSum durs (index durs R tc) : Nat) : Int))
          ((sn : Int) + ((index durs R (prefixSum durs (index durs R tc) + t) - index durs R tc : Nat) : Int))
      else .notFound := by
  have hR : 0 < R := Nat.zero_lt_of_lt (h1 0 hn)
  unfold mpsRequest
  rw [mpsIndex_time durs R sn tc t hR hn]
  by_cases h : index durs R tc < durs.length ∧
      index durs R (prefixSum durs (index durs R tc) + t) < durs.length
  · -- `P_{i₀}` resolves to `i₀` itself, so the search at `P_{i₀} + t` ends at or after `i₀`: no difference truncates
    have hge := index_mono durs R (prefixSum durs (index durs R tc))
      (prefixSum durs (index durs R tc) + t) hR hn (Nat.le_add_right _ _)
    rw [index_at_start durs R _ hn h.1 h1 h2] at hge
    have hm := prefixSum_mono durs hge
    generalize index durs R (prefixSum durs (index durs R tc) + t) = g at *
    generalize index durs R tc = i at *
    rw [if_pos h, if_neg (by omega), if_neg (by omega), mpsServe_segment durs _ _ _ _ h.2 (by omega)]
    congr 1 <;> omega
  · rw [if_neg h]
    by_cases hq : durs.length ≤ index durs R tc
    · rw [if_pos hq]; rfl
    · rw [if_neg hq, if_pos (by omega)]; rfl

/-- `mps_time_maps` at a listed time -/
theorem mps_time_at_start (durs : List Nat) (R sn tc st j : Nat) (hn : 0 < durs.length)
    (h1 : StartsInsideLoop durs R) (h2 : PositiveDurs durs) (hj : index durs R tc + j < durs.length) :
    mpsRequest durs (some fun k => st + prefixSum durs k) R sn tc
        (.time (prefixSum durs (index durs R tc + j) - prefixSum durs (index durs R tc))) =
      .segment (index durs R tc + j)
        ((st : Int) + ((prefixSum durs (index durs R tc + j) - prefixSum durs (index durs R tc) : Nat) : Int))
        ((sn : Int) + j) := by
  have hm := prefixSum_mono durs (Nat.le_add_right (index durs R tc) j)
  rw [mps_time_maps durs R sn tc st _ hn h1 h2, Nat.add_sub_cancel' hm,
    index_at_start durs R _ hn hj h1 h2, if_pos ⟨Nat.lt_of_le_of_lt (Nat.le_add_right _ _) hj, hj⟩,
    Nat.add_sub_cancel_left]

/-- **the SegmentTimeline of a Period lists what the Period plays** (fix 488ab59).  Entry `j`
of the (DASH-expanded) timeline of a Period is `(t_j, d_j) = (P_{i₀+j} − P_{i₀}, d_{i₀+j})`:
the source segments from the selected one, with times counted from zero at the Period start;
every listed segment exists, starts inside the Period's duration, and requesting
`$Time$ = t_j` delivers exactly stored segment `i₀ + j` with decode time `st + t_j` and
sequence number `sn + j`.  For every offset, duration and track (no `hfit`: the list is cut
at the end of the source). -/
theorem mps_timeline_lists_admitted (durs : List Nat) (R ts sn tc st durUs : Nat)
    (hn : 0 < durs.length) (h1 : StartsInsideLoop durs R) (h2 : PositiveDurs durs)
    (hin : index durs R tc < durs.length) :
    ∀ j (h : j < (expand (periodTimeline durs R ts tc durUs)).length),
      (expand (periodTimeline durs R ts tc durUs))[j] =
        (((prefixSum durs (index durs R tc + j) - prefixSum durs (index durs R tc) : Nat) : Int),
         (durAt durs (index durs R tc + j) : Int)) ∧
      index durs R tc + j < durs.length ∧
      (prefixSum durs (index durs R tc + j) - prefixSum durs (index durs R tc)) * 1000000 < durUs * ts ∧
      mpsRequest durs (some fun k => st + prefixSum durs k) R sn tc
          (.time (prefixSum durs (index durs R tc + j) - prefixSum durs (index durs R tc))) =
        .segment (index durs R tc + j)
          ((st : Int) + ((prefixSum durs (index durs R tc + j) - prefixSum durs (index durs R tc) : Nat) : Int))
          ((sn : Int) + j) := by
  intro j h
  obtain ⟨k, hx, hk⟩ := periodTimeline_closed durs R ts tc durUs hn hin
  have hj : j < k := by rwa [hx, List.length_map, List.length_range'] at h
  have e2 : index durs R tc + j < durs.length := Nat.lt_of_lt_of_le (Nat.add_lt_add_left hj _) hk.le
  refine ⟨?_, e2, hk.lt_lim _ (Nat.le_add_right _ _) (Nat.add_lt_add_left hj _),
    mps_time_at_start durs R sn tc st j hn h1 h2 e2⟩
  simp only [hx, List.getElem_map, List.getElem_range', Nat.one_mul, ptEntry]

/-- the listed entries are gapless: each one starts where the previous one ends, and the
first one starts at 0 -/
theorem mps_timeline_gapless (durs : List Nat) (R ts tc durUs : Nat) (hn : 0 < durs.length)
    (hin : index durs R tc < durs.length) :
    (∀ (h : 0 < (expand (periodTimeline durs R ts tc durUs)).length),
      (expand (periodTimeline durs R ts tc durUs))[0].1 = 0) ∧
    ∀ j (h : j + 1 < (expand (periodTimeline durs R ts tc durUs)).length),
      (expand (periodTimeline durs R ts tc durUs))[j].1 + (expand (periodTimeline durs R ts tc durUs))[j].2
        = (expand (periodTimeline durs R ts tc durUs))[j + 1].1 := by
  obtain ⟨k, hx, hk⟩ := periodTimeline_closed durs R ts tc durUs hn hin
  constructor
  · intro h
    simp only [hx, List.getElem_map, List.getElem_range', ptEntry, Nat.mul_zero, Nat.add_zero, Nat.sub_self]
    rfl
  · intro j h
    have hj : j + 1 < k := by rwa [hx, List.length_map, List.length_range'] at h
    have hs := prefixSum_succ (durs := durs) (k := index durs R tc + j) (by have := hk.le; omega)
    have hm := prefixSum_mono durs (Nat.le_add_right (index durs R tc) j)
    simp only [hx, List.getElem_map, List.getElem_range', ptEntry, Nat.one_mul, ← Nat.add_assoc, hs,
      Nat.sub_add_comm hm, Int.natCast_add]

/-- **the list is complete**: it stops only at the last stored segment or once the Period's
duration is covered (the next segment would start at or after the end of the Period) -/
theorem mps_timeline_complete (durs : List Nat) (R ts tc durUs : Nat) (hn : 0 < durs.length)
    (hin : index durs R tc < durs.length) :
    index durs R tc + (expand (periodTimeline durs R ts tc durUs)).length = durs.length ∨
    (index durs R tc + (expand (periodTimeline durs R ts tc durUs)).length < durs.length ∧
      durUs * ts ≤ (prefixSum durs (index durs R tc + (expand (periodTimeline durs R ts tc durUs)).length)
        - prefixSum durs (index durs R tc)) * 1000000) := by
  obtain ⟨k, hx, hk⟩ := periodTimeline_closed durs R ts tc durUs hn hin
  rw [hx, List.length_map, List.length_range']
  exact (Nat.eq_or_lt_of_le hk.le).imp id fun h => ⟨h, hk.stop h⟩

/-- a Period whose source offset is past the media lists nothing -/
theorem mps_timeline_empty_past_media (durs : List Nat) (R ts tc durUs : Nat) (hR : 0 < R)
    (hn : 0 < durs.length) (hout : durs.length ≤ index durs R tc) :
    periodTimeline durs R ts tc durUs = [] := by
  unfold periodTimeline
  exact if_pos ((gsi_origin_pos_iff durs R tc hR hn).mpr hout)

/-- `$Time$` and `$Number$` addressing agree: the listed time of entry `j` and number `sn + j`
deliver the same segment with the same decode time and sequence number -/
theorem mps_time_equals_number (durs : List Nat) (R sn tc st j : Nat) (hn : 0 < durs.length)
    (h1 : StartsInsideLoop durs R) (h2 : PositiveDurs durs) (hj : index durs R tc + j < durs.length) :
    mpsRequest durs (some fun k => st + prefixSum durs k) R sn tc
        (.time (prefixSum durs (index durs R tc + j) - prefixSum durs (index durs R tc))) =
      mpsRequest durs (some fun k => st + prefixSum durs k) R sn tc (.number ((sn : Int) + j)) := by
  rw [mps_time_at_start durs R sn tc st j hn h1 h2 hj,
    mps_number_maps durs R sn tc st j (Nat.zero_lt_of_lt (h1 0 hn)) hn, if_pos hj]

set_option maxRecDepth 8192 in
/-- ten 4 s segments at 240 Hz; a Period at source offset 4.2 s (nearest start: segment 1)
of 20 s: `hfit` holds and numbers 1..5 are admitted -/
example : index [960, 960, 960, 960, 960, 960, 960, 960, 960, 960] 9600 1008 = 1 ∧
    20000000 * 240 ≤ (10 - 1) * 960 * 1000000 ∧ 4 * 960 * 1000000 < 20000000 * 240 ∧
    mpsRequest [960, 960, 960, 960, 960, 960, 960, 960, 960, 960]
      (some fun j => 0 + prefixSum [960, 960, 960, 960, 960, 960, 960, 960, 960, 960] j) 9600 1 1008
      (.number (1 + (4 : Nat))) = .segment 5 3840 5 := by decide +kernel

set_option maxRecDepth 8192 in
/-- excluded point of `hfit`: the same Period with a duration of 40 s runs past the end of the
source – number 10 is admitted (`9 · 960 / 240 = 36 s < 40 s`) and answered 404 -/
example : ¬ (40000000 * 240 ≤ (10 - 1) * 960 * 1000000) ∧ 9 * 960 * 1000000 < 40000000 * 240 ∧
    mpsRequest [960, 960, 960, 960, 960, 960, 960, 960, 960, 960]
      (some fun j => 0 + prefixSum [960, 960, 960, 960, 960, 960, 960, 960, 960, 960] j) 9600 1 1008
      (.number (1 + (9 : Nat))) = .notFound := by decide +kernel

/-- a Period whose source offset is past the middle of the last segment is refused (fix 9437abb) -/
example : mpsRequest [960, 960, 960] none 2880 1 2500 (.number 1) = .notFound := by decide

/-- the ledger witness of D21 after the fix: syn1's video track (irregular durations) played
from source offset 6 s (= start of stored segment 2) for 8 s at 240 Hz lists `t=0 d=1440`,
`t=1440 d=960`, and the hypotheses of the timeline theorems hold for it -/
example : expand (periodTimeline [960, 480, 1440, 960, 720, 960] 5520 240 1440 8000000)
      = [(0, 1440), (1440, 960)] ∧
    StartsInsideLoop [960, 480, 1440, 960, 720, 960] 5520 ∧
    PositiveDurs [960, 480, 1440, 960, 720, 960] ∧
    mpsRequest [960, 480, 1440, 960, 720, 960]
      (some fun j => 0 + prefixSum [960, 480, 1440, 960, 720, 960] j) 5520 1 1440 (.time 1440)
      = .segment 3 1440 2 := by
  unfold StartsInsideLoop PositiveDurs
  decide

/-- a whole-millisecond presentation duration: 10.0004 s is presented as 10.000 s -/
example : quantise 10000400 = 10000000 ∧ quantise 10000500 = 10001000 := by decide

end DashLive.Periods
