import DashLive.Gen.Arith
import DashLive.Model.Segments
import DashLive.Model.IsoText
import Mathlib.Tactic.Ring
/-!
# Translated arithmetic = hand-written model

`Gen/Arith.lean` is regenerated from /repo's source text on every run
(`harness/gen_arith.py`, Python `ast` → Lean).  Each theorem below states that a
translated definition equals the hand-written model function the property theorems
(C01, C02, C06, C09, C19) are about, for the non-negative values these functions receive.
If the source expression changes, either the equality is re-proved (harmless rewrite) or
this file stops building (a broken proof obligation, followed by the failing-input search).
-/
namespace DashLive.GenTie
open DashLive DashLive.Segments

theorem fdiv_cast (a b : Nat) : Int.fdiv (a : Int) (b : Int) = ((a / b : Nat) : Int) := by
  rw [Int.fdiv_eq_ediv_of_nonneg _ (Int.natCast_nonneg b)]
  exact (Int.natCast_ediv a b).symm

/-- the same with a numeral divisor (`// 2`, `>> 2`, `// 1000000` in the source) -/
theorem fdiv_ofNat (a b : Nat) :
    Int.fdiv (a : Int) (OfNat.ofNat b) = ((a / OfNat.ofNat b : Nat) : Int) :=
  fdiv_cast a b

/-- `StreamTimingReference.media_duration_using_timescale` = `Segments.refDuration` -/
theorem tie_refDuration (refDur refTs ts : Nat) :
    Gen.Arith.mediaDurationUsingTimescale refDur refTs ts = (Segments.refDuration refDur refTs ts : Nat) := by
  unfold Gen.Arith.mediaDurationUsingTimescale Segments.refDuration
  -- robust against a reordering of the product in the source
  have h : ∀ x : Int, x = ((refDur * ts : Nat) : Int) → Int.fdiv x (refTs : Int) = ((refDur * ts / refTs : Nat) : Int) := by
    intro x hx; rw [hx, fdiv_cast]
  apply h
  push_cast
  ring

/-- `timecode_to_timedelta` = C19's model -/
theorem tie_timecodeToTimedelta (tc ts : Int) :
    Gen.Arith.timecodeToTimedeltaUs tc ts = IsoText.timecodeToTimedelta tc ts := rfl

/-- `timedelta_to_timecode` = C19's model (the timedelta given by its normalised fields) -/
theorem tie_timedeltaToTimecode (delta ts : Int) :
    Gen.Arith.timedeltaToTimecode (IsoText.tdDays delta) (IsoText.tdSeconds delta) (IsoText.tdMicros delta) ts
      = IsoText.timedeltaToTimecode delta ts := rfl

/-- `multiply_timedelta` = C19's model -/
theorem tie_multiplyTimedelta (delta num : Int) :
    Gen.Arith.multiplyTimedelta (IsoText.tdDays delta) (IsoText.tdSeconds delta) (IsoText.tdMicros delta) num
      = IsoText.multiplyTimedelta delta num := rfl

/-- `timedelta_to_timecode` = `Segments.tdToTc` (the model C01/C09 use for the timecode of
firstAvailableTime), for a non-negative delta of `us` microseconds -/
theorem tie_tdToTc (us ts : Nat) :
    Gen.Arith.timedeltaToTimecode ((us / 86400000000 : Nat) : Int)
      ((us % 86400000000 / 1000000 : Nat) : Int) ((us % 86400000000 % 1000000 : Nat) : Int) ts
      = (Segments.tdToTc us ts : Nat) := by
  unfold Gen.Arith.timedeltaToTimecode Segments.tdToTc
  dsimp only
  rw [← Int.natCast_mul ts (us % 86400000000 % 1000000), fdiv_ofNat]
  push_cast
  rfl

/-- VOD first/last number = `Segments.firstLastVod` -/
theorem tie_vodFirstLast (n sn : Nat) :
    Gen.Arith.vodFirstLast sn n = Segments.firstLastVod n sn := rfl

/-- VOD `$Time$` → (segment number, stored segment, origin) = what `Segments.vodIndex` computes -/
theorem tie_vodTimeToSegment (t sd sn : Nat) :
    Gen.Arith.vodTimeToSegment t sn sd
      = ((((t + sd / 4) / sd : Nat) : Int) + sn, (((t + sd / 4) / sd : Nat) : Int) + 1, 0) := by
  unfold Gen.Arith.vodTimeToSegment
  dsimp only
  rw [fdiv_ofNat, ← Int.natCast_add t, fdiv_cast]
  refine Prod.ext rfl (Prod.ext ?_ rfl)
  dsimp only
  omega

/-- `Segments.vodIndex` for an accepted `$Time$` request returns the values of the translated `vodTimeToSegment` -/
theorem vodIndex_uses_tie (n sd sn t : Nat)
    (hin : ¬ ((((t + sd / 4) / sd : Nat) : Int) + sn < (sn : Int) ∨
              (((t + sd / 4) / sd : Nat) : Int) + sn > (n : Int) + sn - 1)) :
    Segments.vodIndex n sd sn (.time t)
      = .ok ((Gen.Arith.vodTimeToSegment t sn sd).2.1).toNat 0 (Gen.Arith.vodTimeToSegment t sn sd).1 := by
  rw [tie_vodTimeToSegment]
  unfold Segments.vodIndex Segments.firstLastVod
  simp only [hin, if_false]
  congr 1
  omega

/-- the list lookup `self.segments[i].duration` (1-based `i`) as the model's `durAt` -/
def segDurOf (durs : List Nat) : Int → Int := fun i => ((durAt durs (i - 1).toNat : Nat) : Int)

theorem segDurOf_succ (durs : List Nat) (m : Nat) : segDurOf durs ((m : Int) + 1) = (durAt durs m : Nat) := by
  unfold segDurOf
  have : ((m : Int) + 1 - 1).toNat = m := by omega
  rw [this]

theorem tie_gsiLoop (durs : List Nat) (R tc : Nat) :
    ∀ (fuel m s o : Nat),
      Gen.Arith.getSegmentIndex_while1 (segDurOf durs) (timecode := tc) (ref_duration_tc := R)
          (num_media_segments := durs.length) fuel (s : Int) ((m : Int) + 1) (o : Int)
        = ((((gsiLoop durs R tc fuel m s o).2.1 : Nat) : Int), (((gsiLoop durs R tc fuel m s o).1 : Nat) : Int) + 1,
           (((gsiLoop durs R tc fuel m s o).2.2 : Nat) : Int)) := by
  intro fuel
  induction fuel with
  | zero => intro m s o; rfl
  | succ f ih =>
    intro m s o
    unfold Gen.Arith.getSegmentIndex_while1 gsiLoop
    rw [segDurOf_succ, fdiv_ofNat]
    by_cases h : s + durAt durs m / 2 < tc
    · rw [if_pos (by omega), if_pos h]
      dsimp only
      -- the translation repeats the wrap test for each of the three variables assigned under it
      by_cases hw : m + 1 ≥ durs.length
      · rw [if_pos (by omega), if_pos (by omega), if_pos (by omega), if_pos hw]
        have := ih 0 (o + R) (o + R)
        rwa [Int.natCast_add, Int.natCast_zero, Int.zero_add] at this
      · rw [if_neg (by omega), if_neg (by omega), if_neg (by omega), if_neg hw]
        have := ih (m + 1) (s + durAt durs m) o
        rwa [Int.natCast_add, Int.natCast_add] at this
    · rw [if_neg (by omega), if_neg h]

/-- `Representation.get_segment_index` as translated from the source = the model every C01/C02/C06/C09
theorem is about (`Segments.getSegmentIndex`), with the loop bound the model uses -/
theorem tie_getSegmentIndex (durs : List Nat) (refDur refTs ts tc : Nat) :
    Gen.Arith.getSegmentIndex (segDurOf durs) refDur refTs ts durs.length tc (durs.length + 1)
      = ((((Segments.getSegmentIndex durs (refDuration refDur refTs ts) tc).1 : Nat) : Int),
         (((Segments.getSegmentIndex durs (refDuration refDur refTs ts) tc).2.1 : Nat) : Int),
         (((Segments.getSegmentIndex durs (refDuration refDur refTs ts) tc).2.2 : Nat) : Int)) := by
  unfold Gen.Arith.getSegmentIndex Segments.getSegmentIndex
  dsimp only
  rw [tie_refDuration]
  generalize refDuration refDur refTs ts = R
  rw [fdiv_cast, ← Int.natCast_mul]
  have h := tie_gsiLoop durs R tc (durs.length + 1) 0 (tc / R * R) (tc / R * R)
  simp only [Int.natCast_zero, Int.zero_add] at h
  rw [h]
  simp only [Int.natCast_add, Int.natCast_one]

end DashLive.GenTie
