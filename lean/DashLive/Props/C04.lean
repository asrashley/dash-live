import DashLive.Lemmas.BoxEdit
/-!
# C04 – ISO-BMFF parse/encode round-trips byte-exactly

Quantification.  Every theorem is over *all* field values that are legal for the
box version/flags (`X.Wf`: exactly what `struct.pack` accepts and `parse` can
produce), all list lengths, all trees of any depth, all finite edit sequences,
all output offsets, and – for `senc` – every context (IV size, `saiz` sizes)
that matches the samples.  `decode_encode_X` is `parse(encode(x)) = x`;
`encode_decode_X` is the converse *on bytes*: whatever the parser accepts is the
encoding of what it returned, i.e. `encode(parse(bs)) = bs` byte for byte.

Two converses need a side condition that the code does not enforce
(`_partial`): a box header whose size field is 0 ("to end of file") is accepted
but re-written with its explicit size, and the 16 reserved bits of `sidx` are
skipped on parse and written as 0.  Both come with a non-vacuity example and a
proof of the negation at a concrete excluded input.  `senc` and `dec3` have no
converse: their parsers drop or normalise bits.
-/
namespace DashLive.C04
open DashLive.Bytes DashLive.Boxes

theorem be_decode_encode (n v : Nat) (rest : Bytes) (h : v < 256 ^ n) :
    decBE n (encBE n v ++ rest) = some (v, rest) := (be n).dec_enc h rest

theorem be_encode_decode (n : Nat) (bs : Bytes) (v : Nat) (rest : Bytes)
    (h : decBE n bs = some (v, rest)) : v < 256 ^ n ∧ encBE n v ++ rest = bs := (be n).spec h

theorem i32_decode_encode (v : Int) (rest : Bytes) (h : -2147483648 ≤ v ∧ v < 2147483648) :
    decI32 (encI32 v ++ rest) = some (v, rest) := i32.dec_enc h rest

theorem i32_encode_decode (bs : Bytes) (v : Int) (rest : Bytes) (h : decI32 bs = some (v, rest)) :
    (-2147483648 ≤ v ∧ v < 2147483648) ∧ encI32 v ++ rest = bs := i32.spec h

theorem cstr_decode_encode (s rest : Bytes) (h : ∀ b ∈ s, b ≠ 0) :
    decCStr (encCStr s ++ rest) = some (s, rest) := cstr.dec_enc h rest

theorem cstr_encode_decode (bs s rest : Bytes) (h : decCStr bs = some (s, rest)) :
    (∀ b ∈ s, b ≠ 0) ∧ encCStr s ++ rest = bs := cstr.spec h

theorem header_decode_encode (tail : Nat) (t : BoxType) (large : Bool) (size : Nat) (rest : Bytes)
    (ht : t.Wf) (hs : sizeOk large size) :
    decHeader tail (encHeader t large size ++ rest)
      = some ({ typ := t, large := large, toEnd := false, size := size }, rest) :=
  decHeader_encHeader tail t large size rest ht hs

/-- every header the parser accepts with an explicit size (32- or 64-bit form,
plain or `uuid` type) is re-encoded byte for byte -/
theorem header_encode_decode_partial (tail : Nat) (bs : Bytes) (h : Header) (rest : Bytes)
    (hd : decHeader tail bs = some (h, rest)) (hexplicit : h.toEnd = false) :
    h.typ.Wf ∧ sizeOk h.large h.size ∧ encHeader h.typ h.large h.size ++ rest = bs :=
  ⟨(decHeader_spec tail bs _ hd).1, (decHeader_spec tail bs _ hd).2.1 hexplicit⟩

/-- non-vacuity: a 64-bit `uuid` header satisfies the hypotheses -/
example : decHeader 0 ([0,0,0,1, 117,117,105,100, 0,0,0,0,0,0,0,33,
      1,2,3,4,5,6,7,8,9,10,11,12,13,14,15,16, 99]) =
    some ({ typ := .uuid [1,2,3,4,5,6,7,8,9,10,11,12,13,14,15,16], large := true, toEnd := false,
            size := 33 }, [99]) := by decide

/-- negation at the excluded point: `00000000 'mdat' 01 02` is accepted (size to
end of input = 10) and re-encoded as `0000000a 'mdat' 01 02` -/
example : decHeader 0 [0,0,0,0, 109,100,97,116, 1,2] =
      some ({ typ := .std [109,100,97,116], large := false, toEnd := true, size := 10 }, [1,2]) ∧
    encHeader (.std [109,100,97,116]) false 10 ++ [1,2] ≠ [0,0,0,0, 109,100,97,116, 1,2] := by
  decide

theorem decode_encode_ftyp (x : Ftyp) (h : x.Wf) : decFtyp (encFtyp x) = some x := decFtyp_encFtyp x h
theorem encode_decode_ftyp (bs : Bytes) (x : Ftyp) (h : decFtyp bs = some x) :
    x.Wf ∧ encFtyp x = bs := encFtyp_decFtyp bs x h

theorem decode_encode_mfhd (x : Mfhd) (h : x.Wf) : decMfhd (encMfhd x) = some x := Mfhd.codec.exact_dec_enc h
theorem encode_decode_mfhd (bs : Bytes) (x : Mfhd) (h : decMfhd bs = some x) :
    x.Wf ∧ encMfhd x = bs := Mfhd.codec.exact_spec h

/-- all 2⁵ combinations of optional fields (flag bits 0, 1, 3, 4, 5) -/
theorem decode_encode_tfhd (x : Tfhd) (h : x.Wf) : decTfhd (encTfhd x) = some x := Tfhd.codec.exact_dec_enc h
theorem encode_decode_tfhd (bs : Bytes) (x : Tfhd) (h : decTfhd bs = some x) :
    x.Wf ∧ encTfhd x = bs := Tfhd.codec.exact_spec h

theorem decode_encode_tfdt (x : Tfdt) (h : x.Wf) : decTfdt (encTfdt x) = some x := Tfdt.codec.exact_dec_enc h
theorem encode_decode_tfdt (bs : Bytes) (x : Tfdt) (h : decTfdt bs = some x) :
    x.Wf ∧ encTfdt x = bs := Tfdt.codec.exact_spec h

/-- header fields and every per-sample field combination (flag bits 0, 2, 8–11),
any number of samples, signed composition offsets when `version ≠ 0` -/
theorem decode_encode_trun (x : Trun) (h : x.Wf) : decTrun (encTrun x) = some x := Trun.codec.exact_dec_enc h
theorem encode_decode_trun (bs : Bytes) (x : Trun) (h : decTrun bs = some x) :
    x.Wf ∧ encTrun x = bs := Trun.codec.exact_spec h

theorem decode_encode_saiz (x : Saiz) (h : x.Wf) : decSaiz (encSaiz x) = some x := Saiz.codec.exact_dec_enc h
theorem encode_decode_saiz (bs : Bytes) (x : Saiz) (h : decSaiz bs = some x) :
    x.Wf ∧ encSaiz x = bs := Saiz.codec.exact_spec h

theorem decode_encode_saio (x : Saio) (h : x.Wf) : decSaio (encSaio x) = some x := Saio.codec.exact_dec_enc h
theorem encode_decode_saio (bs : Bytes) (x : Saio) (h : decSaio bs = some x) :
    x.Wf ∧ encSaio x = bs := Saio.codec.exact_spec h

/-- `senc` and the PIFF `uuid` variant, for every context that matches the samples:
8/16-byte IVs, with or without the `flags & 1` override, with or without
sub-samples per sample -/
theorem decode_encode_senc (ctx : SencCtx) (x : Senc) (h : x.Wf ctx) :
    decSenc ctx (encSenc x) = some x := decSenc_encSenc ctx x h

theorem decode_encode_tenc (x : Tenc) (h : x.Wf) : decTenc (encTenc x) = some x := Tenc.codec.exact_dec_enc h
theorem encode_decode_tenc (bs : Bytes) (x : Tenc) (h : decTenc bs = some x) :
    x.Wf ∧ encTenc x = bs := Tenc.codec.exact_spec h

theorem decode_encode_pssh (x : Pssh) (h : x.Wf) : decPssh (encPssh x) = some x := Pssh.codec.exact_dec_enc h
theorem encode_decode_pssh (bs : Bytes) (x : Pssh) (h : decPssh bs = some x) :
    x.Wf ∧ encPssh x = bs := Pssh.codec.exact_spec h

theorem decode_encode_mehd (x : Mehd) (h : x.Wf) : decMehd (encMehd x) = some x := Mehd.codec.exact_dec_enc h
theorem encode_decode_mehd (bs : Bytes) (x : Mehd) (h : decMehd bs = some x) :
    x.Wf ∧ encMehd x = bs := Mehd.codec.exact_spec h

theorem decode_encode_trex (x : Trex) (h : x.Wf) : decTrex (encTrex x) = some x := Trex.codec.exact_dec_enc h
theorem encode_decode_trex (bs : Bytes) (x : Trex) (h : decTrex bs = some x) :
    x.Wf ∧ encTrex x = bs := Trex.codec.exact_spec h

theorem decode_encode_sidx (x : Sidx) (h : x.Wf) : decSidx (encSidx x) = some x := decSidx_encSidx x h

theorem encode_decode_sidx_partial (bs : Bytes) (x : Sidx) (h : decSidx bs = some x)
    (hreserved : sidxReserved bs = some 0) : x.Wf ∧ encSidx x = bs := encSidx_decSidx h hreserved

/-- non-vacuity: a version-0 `sidx` with one bit-packed reference and reserved = 0 -/
example : sidxReserved [0,0,0,0, 0,0,0,1, 0,0,3,232, 0,0,0,0, 0,0,0,0, 0,0, 0,1,
    0x80,0,0,0x10, 0,0,0,5, 0x90,0,0,0x0f] = some 0 := by decide

/-- negation at the excluded point: reserved = 0xabcd is accepted and lost -/
example : ∃ x, decSidx [0,0,0,0, 0,0,0,1, 0,0,3,232, 0,0,0,0, 0,0,0,0, 0xab,0xcd, 0,0] = some x ∧
    encSidx x ≠ [0,0,0,0, 0,0,0,1, 0,0,3,232, 0,0,0,0, 0,0,0,0, 0xab,0xcd, 0,0] := by decide

theorem decode_encode_emsg (x : Emsg) (h : x.Wf) : decEmsg (encEmsg x) = some x := decEmsg_encEmsg x h
theorem encode_decode_emsg (bs : Bytes) (x : Emsg) (h : decEmsg bs = some x) :
    x.Wf ∧ encEmsg x = bs := encEmsg_decEmsg bs x h

/-- `dec3`: 1–8 independent substreams, each with or without dependent substreams
(3 or 4 bytes), with or without the trailing extension block that the parser
recognises by "at least 16 bits left" -/
theorem decode_encode_dec3 (x : Dec3) (h : x.Wf) : decDec3 (encDec3 x) = some x := decDec3_encDec3 x h

/-- non-vacuity: two substreams (one with dependent substreams) and the extension -/
example : (Dec3.mk 8191 [⟨0, 16, 0, 7, 1, 0, 0⟩, ⟨2, 16, 31, 2, 0, 15, 511⟩] (some (1, 255))).Wf := by
  decide

/-! `TrackFragmentDecodeTimeBox.__setattr__`, mp4.py:2203-2212 -/
/-- assigning `base_media_decode_time = v` to a version-0 box: the box becomes
version 1 exactly when `v` does not fit 32 bits, the value is stored, the result
round-trips for every `v < 2⁶⁴`, and the `delta` handed to `update_size` is
exactly the growth of the encoding -/
theorem tfdt_version_switch (x : Tfdt) (v : Nat) (hx : x.Wf) (h0 : x.version = 0)
    (hv : v < 18446744073709551616) :
    ((tfdtAssign x v).1.version = 1 ↔ 4294967296 ≤ v) ∧
    (tfdtAssign x v).1.base_media_decode_time = v ∧
    decTfdt (encTfdt (tfdtAssign x v).1) = some (tfdtAssign x v).1 ∧
    (encTfdt (tfdtAssign x v).1).length = (encTfdt x).length + (tfdtAssign x v).2 := by
  refine ⟨?_, ?_, Tfdt.codec.exact_dec_enc (tfdtAssign_wf x v hx h0 hv), tfdtAssign_length x v⟩
  · unfold tfdtAssign; split <;> simp_all
  · unfold tfdtAssign; split <;> rfl

/-- parse ∘ encode = id on every well-formed forest (any depth and width, 32- and
64-bit headers, `uuid` types, opaque payloads for the classes outside the model) -/
theorem tree_roundtrip (ctx : SencCtx) (cs : List Box) (h : BoxesWf ctx cs) :
    decFile ctx (encBoxes cs) = some cs := decFile_encBoxes ctx cs h

/-- the size field of every box is the length of its encoding … -/
theorem encode_size (ctx : SencCtx) (b : Box) (tail : Bytes) (h : BoxWf ctx b) :
    ∃ hdr rest, decHeader 0 (encBox b ++ tail) = some (hdr, rest) ∧ hdr.size = (encBox b).length :=
  ⟨_, _, decHeader_encBox ctx 0 b tail h, rfl⟩

/-- … and a walker that knows nothing about payloads finds that the children of
every container fill it exactly -/
theorem encode_children_fill (ctx : SencCtx) (cs : List Box) (h : BoxesWf ctx cs) :
    walkOk (encBoxes cs).length (encBoxes cs) = true :=
  walkOkT_of_decBoxes ctx _ 0 _ cs (decFile_encBoxes ctx cs h)

/-- `update_size` keeps every stored `size` attribute equal to the encoded
length of its box, for every finite sequence of child insertions, appends,
removals (of boxes whose own stored sizes are right) and tfdt assignments, at any
depth; no box on the path to the root is forgotten -/
theorem edits_preserve_sizes (root : STree) (es : List Edit) (h : root.SizeOk)
    (hes : ∀ e ∈ es, e.Tracked) : (applyEdits root es).SizeOk := by
  induction es generalizing root with
  | nil => exact h
  | cons e es ih =>
    exact ih _ (edit_sizeOk root e h (hes e (by simp))) fun x hx => hes x (by simp [hx])

/-- after *any* finite sequence of edits (including field assignments that change
the length of a box without telling anyone) `encode` yields the encoding of the
edited tree, re-computes every `size` and `position` attribute to the length and
offset of the box in the output, and – when the edited tree is well formed –
the output passes the payload-agnostic walker -/
theorem encode_after_edits (ctx : SencCtx) (root : STree) (es : List Edit) (pos : Nat) :
    let t := applyEdits root es
    (t.encodeAt pos).1 = encBox t.erase ∧ (t.encodeAt pos).2.erase = t.erase ∧
    (t.encodeAt pos).2.MetaOk pos ∧
    (BoxWf ctx t.erase →
      walkOk (t.encodeAt pos).1.length (t.encodeAt pos).1 = true) := by
  intro t
  obtain ⟨h1, h2, h3⟩ := encodeAt_spec t pos
  refine ⟨h1, h2, h3, ?_⟩
  intro hw
  rw [h1]
  have := encode_children_fill ctx [t.erase] ⟨hw, trivial⟩
  simpa [encBoxes] using this

/-- non-vacuity of `edits_preserve_sizes`: a moof with an mfhd; append a tfdt,
assign a 33-bit time (switch to version 1), remove the mfhd -/
def exRoot : STree :=
  .node (.std (ascii "moof")) false ⟨24, 0⟩ [.leaf (.std (ascii "mfhd")) false ⟨16, 8⟩ (.mfhd ⟨0, 0, 7⟩)]
def exTfdt : STree := .leaf (.std (ascii "tfdt")) false ⟨16, 0⟩ (.tfdt ⟨0, 0, 5⟩)
def exEdits : List Edit :=
  [.child [] (.append exTfdt), .setTfdt [1] 4294967296, .child [] (.remove 0)]

example : exRoot.SizeOk := by
  simp only [exRoot, STree.SizeOk, SizeAllOk, and_true]; decide
example : ∀ e ∈ exEdits, e.Tracked := by
  intro e he
  simp only [exEdits, List.mem_cons, List.mem_nil_iff, or_false] at he
  rcases he with rfl | rfl | rfl <;> simp only [Edit.Tracked, exTfdt, STree.SizeOk] <;> decide
/-- the edits really change the tree: 24 → 40 (tfdt appended) → 44 (version 1) → 28 (mfhd removed) -/
example : (applyEdits exRoot exEdits).size = 28 := by decide

/-- a tree in which any sub-trees are still the bytes they were read from encodes
to the same bytes as the eagerly parsed tree and, once touched, exposes exactly
the eager tree (hence the same field values) -/
theorem lazy_eq_eager (ctx : SencCtx) (lt : LBox) (x : Box) (h : Lazy lt x) (hx : BoxWf ctx x) :
    encL lt = encBox x ∧ force ctx lt = some x :=
  ⟨encL_of_lazy h, force_of_lazy ctx h hx⟩

/-! non-vacuity of the well-formedness predicates -/
example : (Tfhd.mk 0 0x02003b 7 1000 2 3 4 5).Wf := by decide
example : (Trun.mk 1 0xf05 2 (-8) 9 [⟨1, 2, 3, -4⟩, ⟨5, 6, 7, 2147483647⟩]).Wf := by decide
example : (Senc.mk 0 2 0 8 [] [⟨[1,2,3,4,5,6,7,8], [⟨16, 4000⟩]⟩, ⟨[1,2,3,4,5,6,7,9], []⟩]).Wf
    ⟨8, [16, 8], 0⟩ := by decide
example : BoxesWf ⟨8, [], 0⟩ [.node (.std (ascii "moof")) false
    [.leaf (.std (ascii "mfhd")) true (.mfhd ⟨0, 0, 7⟩),
     .leaf (.uuid [0,1,2,3,4,5,6,7,8,9,10,11,12,13,14,15]) false (.opaque [1,2,3])]] := by
  simp only [BoxesWf, BoxWf, and_true]
  refine ⟨by decide, by decide, ⟨⟨by decide, by decide, ?_, by decide⟩,
    ⟨by decide, by decide, ?_, by decide⟩⟩, by decide⟩
  · have : kindOf (.std (ascii "mfhd")) = .mfhd := by decide
    rw [this]; exact (by decide : (Mfhd.mk 0 0 7).Wf)
  · have : kindOf (.uuid [0,1,2,3,4,5,6,7,8,9,10,11,12,13,14,15]) = .opaque := by decide
    rw [this]; trivial

end DashLive.C04
