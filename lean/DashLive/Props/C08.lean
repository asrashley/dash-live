import DashLive.Lemmas.LiveTiming
/-!
# C08 – live timing parameters are coherent for every clock and option

The model is read through `Accepted.core` (what holds of every accepted input), `calc_of_lt` and
`calc_symbolic` (`Lemmas/LiveTiming.lean`); the examples at the end are non-vacuity instances, boundary
cases and the recorded witnesses of the repaired defects.

Quantification: every clock value `now` (µs since the Unix epoch, `0 ≤ now` –
the model's domain), every `start` in `epoch | today | month | year | now` or an
explicit instant `≤ now` with any UTC offset, every `depth`, `mup`, `leeway`
(absent, `≤ 0`, positive – any integer), every timing reference
(`segment_duration`, `timescale` – any naturals).  No bound on any of them.

`T now ref o` below is `calculateLiveParams now ref o`, the model of
`DashTiming.calculate_live_params` in the tree today (after the repairs
`de52307`, `7e99581`, `abb50c2`, `f60cf82`; the witnesses at the end of the file show
what failed before the first three).
-/
namespace DashLive.LiveTiming

/-- the inputs C08 quantifies over: a clock at or after the Unix epoch and, for an
explicit `start`, an instant that is not in the future.  The hypothesis is stated in
its weakest form – the start *truncated to a whole second* (what the code uses as
availabilityStartTime) is not after `now` – which is exactly the condition under
which the handler serves a manifest at all (`served_iff_accepted`); an instant
`≤ now` satisfies it (`accepted_of_le`). -/
structure Accepted (now : Int) (o : Options) : Prop where
  clock : 0 ≤ now
  start_le_now : ∀ t off, o.start = .explicit t off → floorSec t ≤ now

theorem accepted_of_le (now : Int) (o : Options) (h0 : 0 ≤ now)
    (h : ∀ t off, o.start = .explicit t off → t ≤ now) : Accepted now o :=
  ⟨h0, fun t off ht => Int.le_trans (floorSec_le t) (h t off ht)⟩

local notation "T" => calculateLiveParams

theorem Accepted.core {now : Int} {o : Options} (h : Accepted now o) (ref : Ref) :
    Core now (T now ref o) :=
  calc_core ref h.clock h.start_le_now

/-- **availabilityStartTime ≤ now** -/
theorem ast_le_now (now : Int) (ref : Ref) (o : Options) (h : Accepted now o) :
    (T now ref o).availabilityStartTime ≤ now :=
  (h.core ref).ast_le

/-- `elapsedTime` is exactly `now − availabilityStartTime` (also after the
zero-elapsed back-off) and never zero -/
theorem elapsed_eq (now : Int) (ref : Ref) (o : Options) (h : Accepted now o) :
    (T now ref o).elapsedTime = now - (T now ref o).availabilityStartTime ∧
    0 < (T now ref o).elapsedTime :=
  ⟨(h.core ref).elapsed_eq, (h.core ref).elapsed_pos⟩

/-- **publishTime lies in [availabilityStartTime, now] and on a whole second** –
with and without a minimumUpdatePeriod -/
theorem publish_in_range (now : Int) (ref : Ref) (o : Options) (h : Accepted now o) :
    (T now ref o).availabilityStartTime ≤ (T now ref o).publishTime ∧
    (T now ref o).publishTime ≤ now ∧
    (T now ref o).publishTime % usPerSec = 0 := by
  have c := h.core ref
  rw [c.publish_eq]
  cases hm : effectiveMup true ref o.mup with
  | none => exact ⟨le_floorSec c.ast_whole c.ast_le, floorSec_le now, floorSec_whole now⟩
  | some p =>
    have hp := effectiveMup_pos hm
    obtain ⟨⟨k, hk, e⟩, hle, _⟩ := publish_some_spec hp c.ast_whole c.ast_le
    rw [e] at hle ⊢
    have := Int.mul_nonneg (Int.mul_nonneg hk (Int.le_of_lt hp)) (Int.le_of_lt usPerSec_pos)
    exact ⟨by omega, hle, (Int.add_mul_emod_self_right ..).trans c.ast_whole⟩

/-- **0 ≤ timeShiftBufferDepth ≤ now − availabilityStartTime** (depth in whole
seconds, so the upper bound is stated in µs) -/
theorem tsbd_bounds (now : Int) (ref : Ref) (o : Options) (h : Accepted now o) :
    0 ≤ (T now ref o).timeShiftBufferDepth ∧
    (T now ref o).timeShiftBufferDepth * usPerSec ≤ now - (T now ref o).availabilityStartTime := by
  obtain ⟨a, b, _⟩ :=
    clampDepth_bounds (Int.le_of_lt (h.core ref).elapsed_pos) (initialDepth_pos o.depth)
  rw [calc_tsbd, ← (h.core ref).elapsed_eq]
  exact ⟨a, b⟩

/-- the requested depth is only ever reduced: `tsbd ≤ depth`, with the default 60 s in place of an
absent, zero or negative `depth` -/
theorem tsbd_le_requested (now : Int) (ref : Ref) (o : Options) (h : Accepted now o) :
    (T now ref o).timeShiftBufferDepth ≤ initialDepth true o.depth := by
  rw [calc_tsbd]
  exact (clampDepth_bounds (Int.le_of_lt (h.core ref).elapsed_pos) (initialDepth_pos o.depth)).2.2

/-- **firstAvailableTime = now − availabilityStartTime − timeShiftBufferDepth ≥ 0** -/
theorem fat_eq (now : Int) (ref : Ref) (o : Options) (h : Accepted now o) :
    (T now ref o).firstAvailableTime =
      now - (T now ref o).availabilityStartTime - (T now ref o).timeShiftBufferDepth * usPerSec ∧
    0 ≤ (T now ref o).firstAvailableTime := by
  obtain ⟨_, b⟩ := tsbd_bounds now ref o h
  rw [calc_fat, (h.core ref).elapsed_eq]
  exact ⟨rfl, Int.sub_nonneg_of_le b⟩

/-- a minimumUpdatePeriod that is in force is a positive number of seconds (in
particular the default derived from the timing reference, for every segment
duration and timescale) -/
theorem mup_positive (now : Int) (ref : Ref) (o : Options) (p : Int)
    (hp : (T now ref o).minimumUpdatePeriod = some p) : 0 < p :=
  effectiveMup_pos hp

/-- the default minimumUpdatePeriod is at least one second for **every** timing
reference (D17: before `abb50c2` it was `round(2·sd/ts)`, zero for segments
shorter than ¼ s – see `default_mup_unrepaired` below) -/
theorem default_mup_positive (ref : Ref) : 1 ≤ defaultMup true ref := defaultMup_pos ref

/-- what the unrepaired default was: positive iff the segment is longer than ¼ s -/
theorem default_mup_unrepaired (ref : Ref) (hts : 0 < ref.timescale) :
    1 ≤ defaultMup false ref ↔ ref.timescale < 4 * ref.segmentDuration := by
  have := roundHalfEven_pos_iff (2 * ref.segmentDuration) ref.timescale hts
  simp only [defaultMup, Bool.false_eq_true, if_false]
  omega

/-- **publishTime = availabilityStartTime + k·p for a whole k ≥ 0 and lags now
by less than p** (the property asks for `< p + 1 s`; the code achieves `< p`) -/
theorem publish_quantised (now : Int) (ref : Ref) (o : Options) (h : Accepted now o) (p : Int)
    (hp : (T now ref o).minimumUpdatePeriod = some p) :
    0 < p ∧
    (∃ k : Int, 0 ≤ k ∧
      (T now ref o).publishTime = (T now ref o).availabilityStartTime + k * p * usPerSec) ∧
    now - (T now ref o).publishTime < p * usPerSec := by
  have c := h.core ref
  have hm : effectiveMup true ref o.mup = some p := hp
  obtain ⟨q1, _, q3⟩ := publish_some_spec (effectiveMup_pos hm) c.ast_whole c.ast_le
  rw [c.publish_eq, hm]
  exact ⟨effectiveMup_pos hm, q1, q3⟩

/-- the literal bound of the property text: `now − publishTime < p + 1 s` -/
theorem publish_lag (now : Int) (ref : Ref) (o : Options) (h : Accepted now o) (p : Int)
    (hp : (T now ref o).minimumUpdatePeriod = some p) :
    now - (T now ref o).publishTime < (p + 1) * usPerSec := by
  have := (publish_quantised now ref o h p hp).2.2
  unfold usPerSec at *
  omega

/-- **publishTime never decreases as now advances** (same options, same
resolved availabilityStartTime; with or without a minimumUpdatePeriod) -/
theorem publish_mono (now₁ now₂ : Int) (ref : Ref) (o : Options)
    (h₁ : Accepted now₁ o) (h₂ : Accepted now₂ o) (hle : now₁ ≤ now₂)
    (hast : (T now₁ ref o).availabilityStartTime = (T now₂ ref o).availabilityStartTime) :
    (T now₁ ref o).publishTime ≤ (T now₂ ref o).publishTime := by
  rw [(h₁.core ref).publish_eq, (h₂.core ref).publish_eq, ← hast]
  exact publish_mono_of_le (fun _ => effectiveMup_pos) (h₁.core ref).ast_whole hle

/-- without the same-start hypothesis (a symbolic start that rolls over between
the two requests) publishTime can step back, but by less than one period -/
theorem publish_mono_across_restart (now₁ now₂ : Int) (ref : Ref) (o : Options)
    (h₁ : Accepted now₁ o) (h₂ : Accepted now₂ o) (hle : now₁ ≤ now₂) (p : Int)
    (hp : (T now₂ ref o).minimumUpdatePeriod = some p) :
    (T now₁ ref o).publishTime < (T now₂ ref o).publishTime + p * usPerSec := by
  have a := (publish_in_range now₁ ref o h₁).2.1
  have b := (publish_quantised now₂ ref o h₂ p hp).2.2
  exact Int.lt_of_le_of_lt (Int.le_trans a hle) (Int.lt_add_of_sub_left_lt b)

/-- **the symbolic start values `today`, `month`, `year`, `now` yield a stream at
least one minute old** – at every clock value, first seconds of a day, month or
year and leap days included -/
theorem symbolic_age (now : Int) (ref : Ref) (o : Options) (h0 : 0 ≤ now)
    (hs : o.start = .today ∨ o.start = .month ∨ o.start = .year ∨ o.start = .now) :
    minuteUs ≤ (T now ref o).elapsedTime := by
  obtain ⟨hsym, hne⟩ := symbolic_ne_epoch hs
  obtain ⟨_, e, a⟩ := calc_symbolic ref h0 hsym (absurd · hne)
  exact e ▸ Int.le_sub_left_of_add_le a

/-- **`epoch` yields a stream at least one minute old** once the clock itself is
a minute past the epoch.  The side condition cannot be avoided by any
implementation that resolves `epoch` to 1970-01-01T00:00:00Z (the stream is
exactly as old as the clock reads); it restricts the clock domain and is listed
under the assumptions of the check.  Excluded point: the example marked `epoch_young` below. -/
theorem symbolic_age_epoch_partial (now : Int) (ref : Ref) (o : Options)
    (hs : o.start = .epoch) (h : minuteUs ≤ now) :
    minuteUs ≤ (T now ref o).elapsedTime ∧ (T now ref o).elapsedTime = now := by
  obtain ⟨_, e, _⟩ := calc_symbolic ref (Int.le_trans (by decide) h) (by rw [hs]; rfl) (fun _ => h)
  rw [e, hs, resolved_epoch, Int.sub_zero]
  exact ⟨h, rfl⟩

/-- **`epoch`, `today`, `month`, `year` resolve to one and the same instant for
all requests within a UTC day after its first minute** -/
theorem symbolic_stable (now₁ now₂ : Int) (ref : Ref) (o : Options)
    (h₁ : 0 ≤ now₁) (h₂ : 0 ≤ now₂) (hday : now₁ / dayUs = now₂ / dayUs)
    (hm₁ : minuteUs ≤ now₁ % dayUs) (hm₂ : minuteUs ≤ now₂ % dayUs)
    (hs : o.start = .epoch ∨ o.start = .today ∨ o.start = .month ∨ o.start = .year) :
    (T now₁ ref o).availabilityStartTime = (T now₂ ref o).availabilityStartTime := by
  have hsym : o.start.isSymbolic = true := by
    rcases hs with hs | hs | hs | hs <;> rw [hs] <;> rfl
  have e₁ : minuteUs ≤ now₁ := Int.le_trans hm₁ (emod_dayUs_le h₁)
  have e₂ : minuteUs ≤ now₂ := Int.le_trans hm₂ (emod_dayUs_le h₂)
  rw [(calc_symbolic ref h₁ hsym fun _ => e₁).1, (calc_symbolic ref h₂ hsym fun _ => e₂).1]
  refine resolved_same_day h₁ h₂ hday (hs.imp_right (Or.imp_left fun ht => ⟨ht, ?_⟩))
  exact ⟨fun x => absurd x (Int.not_lt.mpr hm₁), fun x => absurd x (Int.not_lt.mpr hm₂)⟩

/-- `month` and `year` are stable over the **whole** UTC day, first minute included -/
theorem month_year_stable_all_day (now₁ now₂ : Int) (ref : Ref) (o : Options)
    (h₁ : 0 ≤ now₁) (h₂ : 0 ≤ now₂) (hday : now₁ / dayUs = now₂ / dayUs)
    (hs : o.start = .month ∨ o.start = .year) :
    (T now₁ ref o).availabilityStartTime = (T now₂ ref o).availabilityStartTime := by
  obtain ⟨hsym, hne⟩ := symbolic_ne_epoch (.inr (hs.imp_right .inl))
  rw [(calc_symbolic ref h₁ hsym (absurd · hne)).1, (calc_symbolic ref h₂ hsym (absurd · hne)).1]
  exact resolved_same_day h₁ h₂ hday (.inr (.inr hs))

/-- the day-aligned symbolic starts are midnights: a whole number of UTC days -/
theorem symbolic_midnight (now : Int) (ref : Ref) (o : Options) (h0 : 0 ≤ now)
    (hs : o.start = .today ∨ o.start = .month ∨ o.start = .year) :
    (T now ref o).availabilityStartTime % dayUs = 0 := by
  obtain ⟨hsym, hne⟩ := symbolic_ne_epoch (hs.imp_right (Or.imp_right .inl))
  rw [(calc_symbolic ref h0 hsym (absurd · hne)).1]
  exact (resolved_midnight h0 hs).1

/-- **`now` follows the clock at a fixed 60 s distance** (from the clock
truncated to a whole second) -/
theorem now_follows_clock (now : Int) (ref : Ref) (o : Options) (hs : o.start = .now) :
    (T now ref o).availabilityStartTime = floorSec now - 60 * usPerSec := by
  have := floorSec_le now
  rw [(calc_of_lt ref (o := o) (now := now) (by rw [hs, resolved_now]; unfold minuteUs; omega)).1, hs,
    resolved_now]
  rfl

/-- **a manifest is served exactly for the accepted inputs**: `check_stream_has_started`
refuses (404) precisely the explicit starts whose availabilityStartTime – the start
truncated to a whole second – lies after `now`, compared on exact microseconds: one
microsecond ahead is refused, a start later in the *same* second as `now` is served (its
availabilityStartTime is not after `now`).  Every clause above therefore holds for every
response that is a 200. -/
theorem served_iff_accepted (now : Int) (ref : Ref) (o : Options) (h0 : 0 ≤ now) :
    serveLive now ref o = some (T now ref o) ↔ Accepted now o := by
  have hserved : serveLive now ref o = some (T now ref o) ↔ 0 ≤ (T now ref o).elapsedTime := by
    unfold serveLive started
    split <;> simp_all
  rw [hserved]
  constructor
  · intro he
    refine ⟨h0, fun t off ht => Int.not_lt.mp fun hlt => ?_⟩
    rw [calc_elapsed, ht, resolved_explicit, backOff_of_ne (Int.ne_of_gt hlt)] at he
    exact absurd (Int.sub_nonneg.mp he) (Int.not_le.mpr hlt)
  · intro h
    exact Int.le_of_lt (h.core ref).elapsed_pos

/-- a request is either served with the model's timing or refused -/
theorem refused_iff_not_accepted (now : Int) (ref : Ref) (o : Options) (h0 : 0 ≤ now) :
    serveLive now ref o = none ↔ ¬ Accepted now o := by
  rw [← served_iff_accepted now ref o h0]
  unfold serveLive
  split <;> simp

/-- the option vector a manifest hands on is itself an accepted input at every later clock, so
every theorem above holds for the followed document too -/
theorem handon_accepted (now₁ now₂ : Int) (ref : Ref) (o : Options) (h : Accepted now₁ o)
    (hle : now₁ ≤ now₂) : Accepted now₂ (handOn (T now₁ ref o) o) := by
  refine ⟨Int.le_trans h.clock hle, ?_⟩
  intro t off ht
  cases ht
  exact Int.le_trans (floorSec_le _) (Int.le_trans (h.core ref).ast_le hle)

/-- **the followed document describes the same stream**: same availabilityStartTime (whatever
roll-over of a symbolic start lies between the two clocks), the same minimumUpdatePeriod – present,
defaulted or disabled – and a publishTime that has not gone back -/
theorem handon_coherent (now₁ now₂ : Int) (ref : Ref) (o : Options) (h : Accepted now₁ o)
    (hle : now₁ ≤ now₂) :
    (followed now₁ now₂ ref o).availabilityStartTime = (T now₁ ref o).availabilityStartTime ∧
    (followed now₁ now₂ ref o).minimumUpdatePeriod = (T now₁ ref o).minimumUpdatePeriod ∧
    (T now₁ ref o).publishTime ≤ (followed now₁ now₂ ref o).publishTime := by
  have c := h.core ref
  have b := (calc_explicit_whole ref (o := handOn (T now₁ ref o) o) rfl c.ast_whole
    (Int.lt_of_lt_of_le c.ast_lt hle)).1
  refine ⟨b, rfl, ?_⟩
  rw [c.publish_eq, followed, ((handon_accepted now₁ now₂ ref o h hle).core ref).publish_eq, b]
  exact publish_mono_of_le (fun _ => effectiveMup_pos) c.ast_whole hle

/-- 2020-01-01T01:00:00.2Z -/
def exNow : Int := 18262 * 86400000000 + 3600200000
def exRef : Ref := ⟨960, 240⟩

example : Accepted exNow { start := .year } :=
  ⟨by decide, by intro t off h; cases h⟩

example : Accepted exNow { start := .explicit (exNow - 700000) 330, depth := some (-5) } :=
  ⟨by decide, by intro t off h; cases h; decide⟩

/-- 1 January: `year` backs off to 31 December of the previous year -/
example : T exNow exRef { start := .year } =
    { now := exNow, availabilityStartTime := 18261 * 86400000000, utcOffsetMin := 0,
      elapsedTime := 90000200000, timeShiftBufferDepth := 60, firstAvailableTime := 89940200000,
      publishTime := 18262 * 86400000000 + 3600000000, minimumUpdatePeriod := some 8,
      leeway := 0 } := by decide +kernel

/-- a fractional, offset start 0.7 s before `now`, negative depth, mup 7 s -/
example : T exNow exRef { start := .explicit (exNow - 700000) 330, depth := some (-5), mup := some 7,
                          leeway := some 16 } =
    { now := exNow, availabilityStartTime := exNow - 1200000, utcOffsetMin := 330,
      elapsedTime := 1200000, timeShiftBufferDepth := 1, firstAvailableTime := 200000,
      publishTime := exNow - 1200000, minimumUpdatePeriod := some 7,
      leeway := 16000000 } := by decide +kernel

/-- 29 February 2024, 00:00:59.999999Z: `today` is still yesterday, `month` is 1 February -/
example : (T (19782 * 86400000000 + 59999999) exRef { start := .today }).availabilityStartTime
    = 19781 * 86400000000 := by decide +kernel
example : (T (19782 * 86400000000 + 59999999) exRef { start := .month }).availabilityStartTime
    = 19754 * 86400000000 := by decide +kernel
/-- one microsecond later `today` is today -/
example : (T (19782 * 86400000000 + 60000000) exRef { start := .today }).availabilityStartTime
    = 19782 * 86400000000 := by decide +kernel

/-- 2024-02-29T12:00:00.5Z: a start half a second ahead (12:00:01Z) is refused, as is one 1 µs ahead
of the next whole second; a start later in the same second (12:00:00.7Z → availabilityStartTime
12:00:00Z) is served -/
example : serveLive (19782 * 86400000000 + 43200500000) exRef
    { start := .explicit (19782 * 86400000000 + 43201000000) 0 } = none := by decide +kernel
example : serveLive (19782 * 86400000000 + 43200999999) exRef
    { start := .explicit (19782 * 86400000000 + 43201000000) 0, mup := some (-1) } = none := by decide +kernel
example : (serveLive (19782 * 86400000000 + 43200500000) exRef
    { start := .explicit (19782 * 86400000000 + 43200700000) 0 }).isSome = true := by decide +kernel

/-- D7a (before `de52307`): `depth=-5` gave a negative timeShiftBufferDepth -/
example : (calcWith false exNow exRef
    { start := .explicit (18262 * 86400000000) 0, depth := some (-5) }).timeShiftBufferDepth = -5 := by
  decide +kernel

/-- D16 (before `7e99581`): `start=…00:59:59.5Z`, 0.7 s later: publishTime < availabilityStartTime -/
example : (calcWith false exNow exRef { start := .explicit (exNow - 700000) 0 }).publishTime <
    (calcWith false exNow exRef { start := .explicit (exNow - 700000) 0 }).availabilityStartTime := by
  decide +kernel

/-- D17 (before `abb50c2`): 0.1 s segments gave a default minimumUpdatePeriod of 0
(and `elapsed // 0` raised ZeroDivisionError) -/
example : defaultMup false ⟨10, 100⟩ = 0 := by decide

/-- non-vacuity of `symbolic_age_epoch_partial`: an ordinary clock is inside its hypothesis -/
example : minuteUs ≤ exNow := by decide

/-- `epoch_young`: the excluded point of `symbolic_age_epoch_partial` – 30 s after
the epoch the `epoch` stream is 30 s old -/
example : ¬ minuteUs ≤ (T 30000000 exRef { start := .epoch }).elapsedTime := by decide +kernel

/-- `publish_mono` really needs the same-start hypothesis: `start=today`, `mup=7`
at 00:00:59 (start = yesterday) and 00:01:00 (start = today) of 2020-01-01 -/
example : (T (18262 * 86400000000 + 60000000) exRef { start := .today, mup := some 7 }).publishTime <
    (T (18262 * 86400000000 + 59000000) exRef { start := .today, mup := some 7 }).publishTime := by
  decide +kernel

end DashLive.LiveTiming
