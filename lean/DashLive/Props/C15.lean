import DashLive.Lemmas.Csrf
import DashLive.Gen.Routes
/-!
# C15 – only authorised roles can change persistent state

*Authorisation part.*  `DashLive.Gen.Routes.table` is regenerated from the source on
every run (`harness/gen_routes.py`); the theorems below are therefore statements about
the handlers and decorator lists that exist **now**.  Quantification: every row of the
table (every route × HTTP method) and every request: the credential vectors (session ×
token owner × token type × target account) are enumerated completely (`forallCreds`), the
other components of a `Request` are covered by monotonicity (`guard_pass_mono`).

*CSRF part.*  Quantification: every MAC function with the stated properties, every
configuration, every state, every history of checks, prunes, clock jumps (`tick`) and other
requests (`request`) of any length.

*Life-cycle part.*  Quantification: every state and every history of `DashLive.Life.Ev` events: logins,
token refreshes, API and HTML logouts, account deletions, server restarts and clock jumps (`tick n`, any
value), in any order.  A credential the server no longer accepts makes its presenter anonymous for the
guards of `DashLive.Auth` (`Request.token = none` / `session = nobody`).
-/

namespace DashLive.Auth
open DashLive.Gen.Routes

/-- **Composition order.**  The view Flask builds from a row – `as_view` looping over the
class `decorators`, the method's own decorators, the body's checks – behaves as the chain
in execution order: the first guard that does not pass decides, and the state-changing
part of the body is consulted only if every guard passes. -/
theorem guard_chain_sound {α : Type} (row : Row) (body : View α) (r : Request) :
    row.view body r =
      (match evalChain row.chain r with
       | .pass => body r
       | .stop s => .stopped s
       | .block => .blocked) := by
  rw [view_eq_decorate_chain]
  exact decorate_eval row.chain body r

theorem view_of_not_pass {α : Type} (row : Row) (r : Request) (h : evalChain row.chain r ≠ .pass)
    (body body' : View α) :
    row.view body r = row.view body' r ∧ ∀ a, row.view body r ≠ .ran a := by
  rw [guard_chain_sound, guard_chain_sound]
  cases hv : evalChain row.chain r with
  | pass => exact absurd hv h
  | stop s => exact ⟨rfl, nofun⟩
  | block => exact ⟨rfl, nofun⟩

theorem guard_denies_body_not_run {α : Type} (row : Row) (r : Request)
    (h : ∃ g ∈ row.chain, guardVerdict g r ≠ .pass) (body body' : View α) :
    row.view body r = row.view body' r ∧ ∀ a, row.view body r ≠ .ran a := by
  obtain ⟨g, hg, hv⟩ := h
  exact view_of_not_pass row r (fun hp => hv (evalChain_pass_iff.1 hp g hg)) body body'

/-- non-vacuity: the guards are not a blanket refusal -/
theorem guards_pass_body_runs {α : Type} (row : Row) (r : Request)
    (h : ∀ g ∈ row.chain, guardVerdict g r = .pass) (body : View α) :
    row.view body r = body r := by
  rw [guard_chain_sound, evalChain_pass_iff.2 h]

/-- the translator followed every decorator, base class and CSRF service name it met -/
theorem translator_followed_everything : problems = [] := by decide

theorem table_guarded : table.all rowGuarded = true := by decide +kernel

/-- **Every mutating route is guarded.**  For every row of the generated table whose
handler can change persistent state and every request whose caller the documentation does
not allow to change that state – judged by the *union* of the identities it presents: any
session (none, guest, user, media, admin) combined with any bearer token (none, the guest
token, any account's access or refresh token) – some decorator stops it or an in-body
check blocks it, whatever CSRF token it carries (`csrfOk` ranges over both values). -/
theorem mutating_routes_guarded (row : Row) (hrow : row ∈ table) (hm : row.mutates = true)
    (r : Request) (hl : mayChange row.kind r = false) :
    evalChain row.chain r ≠ .pass := by
  intro hp
  rw [rowGuarded_spec (List.all_eq_true.1 table_guarded row hrow) hm r hp] at hl
  cases hl

/-- headline: on a mutating route a caller without the documented right never reaches the
state-changing part of the body -/
theorem lesser_role_never_mutates {α : Type} (row : Row) (hrow : row ∈ table)
    (hm : row.mutates = true) (r : Request)
    (hl : mayChange row.kind r = false) (body : View α) :
    ∀ a, row.view body r ≠ .ran a :=
  (view_of_not_pass row r (mutating_routes_guarded row hrow hm r hl) body body).2

/-- the admin's own session with the admin's own token, of the type the route asks for, passes every
mutating row -/
theorem admin_admitted : ∀ row ∈ table, row.mutates = true →
    ∃ rf, mayChange row.kind (credRequest .admin (some .admin) rf .admin) = true ∧
      evalChain row.chain (credRequest .admin (some .admin) rf .admin) = .pass := by
  decide +kernel

/-- non-vacuity of the previous theorems: on every mutating row some documented caller does
get through (so "guarded" is not "refuses everybody") -/
theorem mutating_routes_admit_documented_role :
    ∀ row ∈ table, row.mutates = true →
      ∃ r, mayChange row.kind r = true ∧ evalChain row.chain r = .pass := by
  intro row hrow hm
  obtain ⟨rf, h⟩ := admin_admitted row hrow hm
  exact ⟨_, h⟩

/-- **The session identity is irrelevant to token guards.**  `jwt_required`,
`jwt_login_required` and the jwt form of the self-or-admin test read the owner of the bearer
token only: replacing the session by any other leaves their verdict unchanged. -/
theorem token_guards_ignore_session (g : Guard) (hg : g.usesSession = false) (r : Request) (s : Ident) :
    guardVerdict g (r.withSession s) = guardVerdict g r := by
  cases g with
  | loginRequired html admin perm => cases hg
  | selfOrAdmin jwt => cases jwt <;> first | rfl | cases hg
  | _ => rfl

/-- `login_required` and the session form of the self-or-admin test never look at the bearer token. -/
theorem session_guards_ignore_token (g : Guard) (hg : g.usesToken = false) (r : Request)
    (t : Option Ident) (rf : Bool) :
    guardVerdict g (r.withToken t rf) = guardVerdict g r := by
  cases g with
  | jwtRequired a b | jwtLoginRequired a b => cases hg
  | selfOrAdmin jwt => cases jwt <;> first | rfl | cases hg
  | _ => rfl

/-- **JWT-protected routes authorise by the token's owner alone.**  In the generated table,
every row whose chain asks `jwt_login_required` (the user-management API) has no guard that
reads the session: its verdict is the same whichever session cookie accompanies the token –
in particular a logged-in session cannot lend its authority to the guest token. -/
theorem jwt_routes_ignore_session (row : Row) (hrow : row ∈ table) (hj : row.jwtProtected = true)
    (r : Request) (s : Ident) :
    evalChain row.chain (r.withSession s) = evalChain row.chain r := by
  have hall : ∀ row ∈ table, row.jwtProtected = true → ∀ g ∈ row.chain, g.usesSession = false := by
    decide +kernel
  exact evalChain_congr row.chain _ _ fun g hg =>
    token_guards_ignore_session g (hall row hrow hj g hg) r s

/-- non-vacuity of `jwt_routes_ignore_session` -/
theorem table_has_jwt_protected_rows :
    ∃ row ∈ table, row.jwtProtected = true ∧ row.mutates = true := by
  decide +kernel

/-- **CSRF check precedes the write.**  `CsrfProtection.check` commits the database
session, so a handler that touches a model before its CSRF check would persist the change
even when the check fails.  No mutating row does. -/
theorem mutating_routes_csrf_first : ∀ row ∈ table, row.mutates = true → row.csrfFirst = true := by
  decide +kernel

/-- non-vacuity of the table theorems -/
theorem table_has_mutating_rows_of_every_kind :
    (∃ row ∈ table, row.mutates = true ∧ row.kind = .media) ∧
    (∃ row ∈ table, row.mutates = true ∧ row.kind = .admin) ∧
    (∃ row ∈ table, row.mutates = true ∧ row.kind = .self) := by
  decide +kernel

/-- **Identity resolution is exact.**  A credential that names `n` resolves to the stored account
called exactly `n` – whatever other accounts are stored before or after it, whatever their names
look like (wildcard characters, other case, surrounding spaces, prefixes of `n` …): accounts with a
different name can be added or removed without changing the result. -/
theorem lookup_ignores_other_accounts {α : Type} (accounts : List (String × α)) (n : String) :
    lookupAccount accounts n = lookupAccount (accounts.filter fun a => a.1 == n) n := by
  unfold lookupAccount
  rw [List.find?_filter]
  simp only [and_self, Bool.decide_eq_true]

theorem lookup_exact {α : Type} (accounts : List (String × α)) (n : String) (x : α)
    (h : lookupAccount accounts n = some x) : (n, x) ∈ accounts := by
  obtain ⟨⟨a1, a2⟩, hf, rfl⟩ := Option.map_eq_some_iff.1 h
  have hp : (a1 == n) = true := List.find?_some (p := fun a : String × α => a.1 == n) hf
  cases beq_iff_eq.1 hp
  exact List.mem_of_find?_eq_some hf

/-- non-vacuity: names that other lookup machinery would confuse resolve to themselves -/
example :
    let accs : List (String × Nat) := [("admin", 1), ("user", 2), ("ad_in", 3), ("%", 4), ("Admin", 5),
                                       ("admin ", 6), ("adm", 7), ("_____", 8)]
    lookupAccount accs "ad_in" = some 3 ∧ lookupAccount accs "%" = some 4 ∧
      lookupAccount accs "Admin" = some 5 ∧ lookupAccount accs "admin " = some 6 ∧
      lookupAccount accs "adm" = some 7 ∧ lookupAccount accs "_____" = some 8 ∧
      lookupAccount accs "ADMIN" = none := by
  decide +kernel

/-- **Replay records are deleted at server start only.**  Every call of `prune_database` – the
only code that deletes CSRF replay records – found anywhere under dashlive/ is the one in
`create_app`. -/
theorem prune_only_at_server_start : pruneSites.all (fun p => p.startup) = true := by decide

/-- No request handler reaches a `prune_database` call (login, logout, token refresh included). -/
theorem no_handler_prunes : ∀ row ∈ table, row.prunes = false := by decide +kernel

/-- CSRF service names are pairwise suffix-free (needed because HMAC input is a plain
concatenation `cookie ‖ service ‖ …`) -/
theorem services_suffix_free :
    ∀ s ∈ services, ∀ s' ∈ services, s.toList <:+ s'.toList → s = s' := by
  decide +kernel

end DashLive.Auth

namespace DashLive.Csrf

/-- **At most once within one server run.**  In any history without a prune step – checks by
anybody, clock jumps of any size in either direction (`tick`: across the 20-minute record
lifetime, the JWT lifetimes, …) and any other requests of any user (`request`: logins, logouts,
token refreshes; they do not touch replay records, `no_handler_prunes`) interleaved in any
order – starting from any state, a token is accepted at most once, whatever services, cookies
and origins the checks name, and including tokens whose first presentation failed the
signature test (they are consumed by that failure). -/
theorem csrf_at_most_once (c : Cfg) (t : Str) :
    ∀ (evs : List Ev) (st : St), (∀ e ∈ evs, e.isPrune = false) →
      acceptedCount t (run c st evs) ≤ 1 := by
  intro evs st hnp
  apply Nat.le_trans (acceptedCount_le c t evs st hnp)
  split <;> omega

/-- non-vacuity of `csrf_at_most_once`: a prune-free history – with a clock jump of a day and
another user's request between the two presentations – in which the bound is attained
(first presentation accepted, the second one refused as a re-use) -/
example :
    let c : Cfg := { mac := fun m => '#' :: m, strictOrigin := false }
    let t : Str := issue c "streams".toList "K".toList [] "12345678".toList
    let evs : List Ev := [.check "streams".toList (some "K".toList) [] t, .tick 86400, .request,
                          .check "streams".toList (some "K".toList) [] t]
    (∀ e ∈ evs, e.isPrune = false) ∧ acceptedCount t (run c St.empty evs) = 1 := by
  decide +kernel

/-- **Within a run no operation other than a prune removes a replay record**: checks, clock
jumps and other requests keep every record, live or expired. -/
theorem records_survive_run (c : Cfg) :
    ∀ (evs : List Ev) (st : St), (∀ e ∈ evs, e.isPrune = false) →
      ∀ p ∈ st.used, p ∈ (final c st evs).used := by
  intro evs
  induction evs with
  | nil => intro st _ p hp; exact hp
  | cons e es ih =>
    intro st hnp p hp
    exact ih _ (fun e' h' => hnp e' (List.mem_cons_of_mem _ h')) p
      (step_records_mono c st e (hnp e (List.mem_cons_self ..)) p hp)

/-- `prune_database(all_csrf=False)` keeps the records that are still live. -/
theorem pruneExpired_keeps_live (st : St) (p : Str × Nat) (hp : p ∈ st.used) (hlive : st.now ≤ p.2) :
    p ∈ (pruneExpired st).used :=
  List.mem_filter.2 ⟨hp, by simpa using hlive⟩

/-- **Negative result: why no handler may prune.**  The token carries no timestamp, so once
the clock has passed the record's expiry (`now + 20 min`) a `prune_database(all_csrf=False)`
deletes the record and the identical token, with its original cookie, is accepted again – in
the same server run.  (A handler that prunes is what `no_handler_prunes` excludes.) -/
theorem csrf_reuse_after_expiry_prune (c : Cfg) (st : St) (svc : Str) (ck : Option Str) (o t : Str)
    (h : (check c st svc ck o t).2 = .accepted) (n : Nat) (hn : st.now + recordLifetime < n) :
    (check c (pruneExpired { (check c st svc ck o t).1 with now := n }) svc ck o t).2 = .accepted := by
  refine check_accepted_transfer h fun hmem => ?_
  obtain ⟨p, hp, hpt⟩ := List.mem_map.1 hmem
  obtain ⟨hp, hlive⟩ := List.mem_filter.1 hp
  rw [check_used, if_pos (.inl h)] at hp
  rcases List.mem_cons.1 hp with rfl | hp
  · -- the record just made expires at `st.now + recordLifetime < n`
    simp at hlive
    omega
  · exact check_of_used c svc ck o (hpt ▸ List.mem_map_of_mem hp) h

/-- **At most once, on the wire.**  `CsrfProtection.check` decodes the submitted text with
`unquote` before anything else and the consumed-token identity is the decoded token.  So for
*any* function `unquote`, in any wire history without a prune step, all presentations whose
text decodes to `t` – whatever their spelling (issued `%27…%3D` form, fully decoded, lower-case
escapes, partially or over-encoded) – are accepted at most once **in total**. -/
theorem csrf_at_most_once_wire (c : Cfg) (t : Str) (evs : List WireEv) (st : St)
    (h : ∀ e ∈ evs, e.isPrune = false) :
    acceptedCount t (runWire c st evs) ≤ 1 := by
  apply csrf_at_most_once
  intro e he
  obtain ⟨w, hw, rfl⟩ := List.mem_map.1 he
  rw [WireEv.decode_isPrune]
  exact h w hw

/-- two spellings of one token share one replay record: once a text decoding to `t` has been
accepted (or has failed the signature test), no text with the same decoding is accepted,
for any service, cookie and origin -/
theorem csrf_spellings_share_one_record (c : Cfg) (st : St) (svc svc' : Str) (ck ck' : Option Str)
    (o o' w w' : Str) (hsame : c.unquote w = c.unquote w')
    (h : (checkWire c st svc ck o w).2 = .accepted ∨ (checkWire c st svc ck o w).2 = .badSignature) :
    (checkWire c (checkWire c st svc ck o w).1 svc' ck' o' w').2 ≠ .accepted := by
  unfold checkWire at *
  rw [← hsame]
  exact check_of_used c svc' ck' o' (check_records_token h)

/-- the driver's instantiation of `unquote` identifies the spellings the harness uses -/
example : pctDecode "AbCd1234b%27x%2By/z%3D%27".toList = "AbCd1234b'x+y/z='".toList ∧
    pctDecode "AbCd1234b%27x%2by/z%3d%27".toList = "AbCd1234b'x+y/z='".toList ∧
    pctDecode "%41bCd1234b'x+y%2Fz=%27".toList = "AbCd1234b'x+y/z='".toList ∧
    pctDecode "AbCd1234b'x+y/z='".toList = "AbCd1234b'x+y/z='".toList := by
  decide +kernel

/-- the first failing presentation consumes the token: after a `badSignature` the same
string is refused as a re-use (this is the order the code uses: record, then verify) -/
theorem csrf_failed_check_consumes (c : Cfg) (st : St) (svc svc' : Str) (ck ck' : Option Str)
    (o o' t : Str) (h : (check c st svc ck o t).2 = .badSignature) :
    (check c (check c st svc ck o t).1 svc' ck' o' t).2 ≠ .accepted :=
  check_of_used c svc' ck' o' (check_records_token (.inr h))

/-- one issuance: `generate_token(service, cookie)` on a request with `origin`, random `salt` -/
structure Issued where
  service : Str
  cookie : Str
  origin : Str
  salt : Str

def Issued.token (c : Cfg) (i : Issued) : Str := issue c i.service i.cookie i.origin i.salt

def Issued.sig (c : Cfg) (i : Issued) : Str :=
  c.mac (message c.strictOrigin i.cookie i.service i.origin (i.salt.take saltLen))

/-- **Never after modification.**  Let `mac` be injective and never empty, and let the
signature part of a presented token be one the server has produced (the caller cannot
compute MAC values – HMAC itself is outside the model).  If `check` accepts the token
then it is, character for character, one of the issued tokens, and the cookie, service
(and origin, in strict mode) of the request concatenate to those of that issuance. -/
theorem csrf_accept_only_issued (c : Cfg)
    (hinj : ∀ a b, c.mac a = c.mac b → a = b) (hne : ∀ m, c.mac m ≠ [])
    (issued : List Issued) (hsalt : ∀ i ∈ issued, saltLen ≤ i.salt.length)
    (st : St) (svc ck o tok : Str)
    (hacc : (check c st svc (some ck) o tok).2 = .accepted)
    (hsig : ∃ i ∈ issued, tok.drop saltLen = i.sig c) :
    ∃ i ∈ issued, tok = i.token c ∧
      ck ++ svc ++ (if c.strictOrigin then o else []) =
        i.cookie ++ i.service ++ (if c.strictOrigin then i.origin else []) := by
  obtain ⟨k, hk, _, _, hs⟩ := (check_accepted_iff c st svc (some ck) o tok).1 hacc
  cases hk
  obtain ⟨i, hi, hsi⟩ := hsig
  have hmsg : message c.strictOrigin ck svc o (tok.take saltLen) =
      message c.strictOrigin i.cookie i.service i.origin (i.salt.take saltLen) :=
    hinj _ _ (hs.symm.trans hsi)
  -- both salts are `saltLen` long: the token is longer than that because its signature is not empty
  have hl : (tok.take saltLen).length = (i.salt.take saltLen).length := by
    have h1 : (tok.drop saltLen).length ≠ 0 := fun h => hne _ (hs ▸ List.length_eq_zero_iff.1 h)
    have := hsalt i hi
    rw [List.length_drop] at h1
    rw [List.length_take, List.length_take]
    omega
  obtain ⟨hb, ht⟩ := List.append_inj' hmsg hl
  refine ⟨i, hi, ?_, hb⟩
  rw [← List.take_append_drop saltLen tok, ht, hsi]
  rfl

/-- **Tamper.**  Contrapositive of the above: a presented token that differs from every
issued token (in its salt, its signature or both) but re-uses an issued signature is
rejected, for every service, cookie and origin. -/
theorem csrf_tamper (c : Cfg)
    (hinj : ∀ a b, c.mac a = c.mac b → a = b) (hne : ∀ m, c.mac m ≠ [])
    (issued : List Issued) (hsalt : ∀ i ∈ issued, saltLen ≤ i.salt.length)
    (st : St) (svc ck o tok : Str)
    (hmod : ∀ i ∈ issued, tok ≠ i.token c)
    (hsig : ∃ i ∈ issued, tok.drop saltLen = i.sig c) :
    (check c st svc (some ck) o tok).2 ≠ .accepted := by
  intro hacc
  obtain ⟨i, hi, heq, _⟩ := csrf_accept_only_issued c hinj hne issued hsalt st svc ck o tok hacc hsig
  exact hmod i hi heq

theorem Issued.token_take (c : Cfg) (i : Issued) (hsalt : saltLen ≤ i.salt.length) :
    (i.token c).take saltLen = i.salt.take saltLen :=
  List.take_left' (List.length_take.trans (Nat.min_eq_left hsalt))

theorem Issued.token_drop (c : Cfg) (i : Issued) (hsalt : saltLen ≤ i.salt.length) :
    (i.token c).drop saltLen = i.sig c :=
  List.drop_left' (List.length_take.trans (Nat.min_eq_left hsalt))

/-- **Bound to service and cookie** (general form; side condition on the origin kept
explicit).  If the request's origin is the one the token was issued on whenever strict
mode is on, and the two service names are suffix-free, then acceptance of an issued token
implies the request names the same service and carries the same cookie. -/
theorem csrf_bound_partial (c : Cfg)
    (hinj : ∀ a b, c.mac a = c.mac b → a = b) (hne : ∀ m, c.mac m ≠ [])
    (i : Issued) (hsalt : saltLen ≤ i.salt.length)
    (st : St) (svc ck o : Str)
    (hacc : (check c st svc (some ck) o (i.token c)).2 = .accepted)
    (hsf : SuffixFree svc i.service)
    (horigin : c.strictOrigin = true → o = i.origin) :
    svc = i.service ∧ ck = i.cookie := by
  obtain ⟨j, hj, _, hb⟩ := csrf_accept_only_issued c hinj hne [i]
    (fun j hj => List.mem_singleton.1 hj ▸ hsalt) st svc ck o (i.token c) hacc
    ⟨i, List.mem_singleton.2 rfl, i.token_drop c hsalt⟩
  cases List.mem_singleton.1 hj
  have hb' : ck ++ svc = i.cookie ++ i.service := by
    cases hstrict : c.strictOrigin with
    | false => simpa [hstrict] using hb
    | true =>
      rw [hstrict, horigin hstrict] at hb
      exact List.append_cancel_right hb
  exact append_inj_of_suffixFree hb' hsf

/-- concrete MAC used for the (non-)vacuity examples: injective, never empty -/
def demoMac : Str → Str := fun m => '#' :: m

/-- non-vacuity of `csrf_bound_partial`: a concrete issuance in strict mode that is accepted
under its hypotheses -/
example :
    let c : Cfg := { mac := demoMac, strictOrigin := true }
    let i : Issued := { service := "streams".toList, cookie := "K".toList,
                        origin := "http://a".toList, salt := "12345678".toList }
    (check c St.empty "streams".toList (some "K".toList) "http://a".toList (i.token c)).2 = .accepted ∧
      SuffixFree "streams".toList i.service ∧ saltLen ≤ i.salt.length := by
  refine ⟨by decide +kernel, ⟨fun _ => rfl, fun _ => rfl⟩, by decide⟩

/-- the excluded point of `csrf_bound_partial`: in strict mode with a *different* origin
the plain concatenation `service ‖ origin` is ambiguous – a token issued for service `s`
on origin `ab` is accepted for service `sa` on origin `b` -/
example :
    let c : Cfg := { mac := demoMac, strictOrigin := true }
    let i : Issued := { service := "s".toList, cookie := "K".toList,
                        origin := "ab".toList, salt := "12345678".toList }
    (check c St.empty "sa".toList (some "K".toList) "b".toList (i.token c)).2 = .accepted := by
  decide +kernel

/-- the other excluded point: service names that are not suffix-free (`bc` ends in `c`) with a
chosen cookie -/
example :
    let c : Cfg := { mac := demoMac, strictOrigin := false }
    let i : Issued := { service := "c".toList, cookie := "ab".toList,
                        origin := [], salt := "12345678".toList }
    (check c St.empty "bc".toList (some "a".toList) [] (i.token c)).2 = .accepted := by
  decide +kernel

theorem csrf_bound_services (c : Cfg) (hcfg : c.strictOrigin = false)
    (hinj : ∀ a b, c.mac a = c.mac b → a = b) (hne : ∀ m, c.mac m ≠ [])
    (i : Issued) (hsalt : saltLen ≤ i.salt.length)
    {s s' : String} (hs : s ∈ DashLive.Gen.Routes.services) (hs' : s' ∈ DashLive.Gen.Routes.services)
    (hi : i.service = s.toList) (st : St) (ck o : Str)
    (hacc : (check c st s'.toList (some ck) o (i.token c)).2 = .accepted) :
    s' = s ∧ ck = i.cookie := by
  have hsf : SuffixFree s'.toList i.service :=
    hi ▸ ⟨fun h => congrArg _ (DashLive.Auth.services_suffix_free s' hs' s hs h),
      fun h => congrArg _ (DashLive.Auth.services_suffix_free s hs s' hs' h)⟩
  have hstrict : c.strictOrigin = true → o = i.origin := by rw [hcfg]; nofun
  obtain ⟨h1, h2⟩ := csrf_bound_partial c hinj hne i hsalt st s'.toList ck o hacc hsf hstrict
  exact ⟨String.toList_injective (h1.trans hi), h2⟩

/-- **Bound to the service** – default configuration (`STRICT_CSRF_ORIGIN` off), service
names taken from the generated table: a token issued for one of the application's
services is accepted only by a check that names that service. -/
theorem csrf_service_bound (c : Cfg) (hcfg : c.strictOrigin = false)
    (hinj : ∀ a b, c.mac a = c.mac b → a = b) (hne : ∀ m, c.mac m ≠ [])
    (i : Issued) (hsalt : saltLen ≤ i.salt.length)
    (s s' : String) (hs : s ∈ DashLive.Gen.Routes.services) (hs' : s' ∈ DashLive.Gen.Routes.services)
    (hi : i.service = s.toList)
    (st : St) (ck o : Str)
    (hacc : (check c st s'.toList (some ck) o (i.token c)).2 = .accepted) :
    s' = s :=
  (csrf_bound_services c hcfg hinj hne i hsalt hs hs' hi st ck o hacc).1

/-- **Bound to the cookie**, same setting: the check carries the cookie the token was issued against. -/
theorem csrf_cookie_bound (c : Cfg) (hcfg : c.strictOrigin = false)
    (hinj : ∀ a b, c.mac a = c.mac b → a = b) (hne : ∀ m, c.mac m ≠ [])
    (i : Issued) (hsalt : saltLen ≤ i.salt.length)
    (s s' : String) (hs : s ∈ DashLive.Gen.Routes.services) (hs' : s' ∈ DashLive.Gen.Routes.services)
    (hi : i.service = s.toList)
    (st : St) (ck o : Str)
    (hacc : (check c st s'.toList (some ck) o (i.token c)).2 = .accepted) :
    ck = i.cookie :=
  (csrf_bound_services c hcfg hinj hne i hsalt hs hs' hi st ck o hacc).2

/-- a request without a (non-empty) CSRF cookie is never accepted and consumes nothing -/
theorem csrf_needs_cookie (c : Cfg) (st : St) (svc : Str) (ck : Option Str) (o t : Str)
    (h : ck = none ∨ ck = some []) :
    check c st svc ck o t = (st, .noCookie) := by
  rcases h with rfl | rfl <;> simp [check]

/-- non-vacuity of the whole protocol: a freshly issued token is accepted when presented
with the service, cookie and origin it was issued for -/
theorem csrf_fresh_accepted (c : Cfg) (i : Issued) (hsalt : saltLen ≤ i.salt.length)
    (hck : i.cookie ≠ []) (st : St) (hfresh : i.token c ∉ st.tokens) :
    (check c st i.service (some i.cookie) i.origin (i.token c)).2 = .accepted := by
  rw [check_accepted_iff]
  refine ⟨i.cookie, rfl, hck, hfresh, ?_⟩
  rw [i.token_drop c hsalt, i.token_take c hsalt]
  rfl

/-- **Negative result (known finding D14b).**  Tokens carry no timestamp and the set of
consumed tokens is emptied at every server start (`prune_database(all_csrf=True)`): a
token that was accepted once is accepted again after a prune step. -/
theorem csrf_reuse_after_prune (c : Cfg) (st : St) (svc : Str) (ck : Option Str) (o t : Str)
    (h : (check c st svc ck o t).2 = .accepted) :
    (check c (prune (check c st svc ck o t).1) svc ck o t).2 = .accepted :=
  check_accepted_transfer h nofun

/-- so `csrf_at_most_once` cannot be extended to histories with a prune step: a concrete
history `check; prune; check` in which one token is accepted twice -/
theorem csrf_at_most_once_fails_with_prune :
    ∃ (c : Cfg) (evs : List Ev) (t : Str),
      (∀ a b, c.mac a = c.mac b → a = b) ∧ acceptedCount t (run c St.empty evs) = 2 := by
  let c : Cfg := { mac := demoMac, strictOrigin := false }
  let i : Issued := { service := "streams".toList, cookie := "K".toList, origin := [],
                      salt := "12345678".toList }
  exact ⟨c, [.check i.service (some i.cookie) [] (i.token c), .prune,
             .check i.service (some i.cookie) [] (i.token c)], i.token c,
    fun _ _ h => (List.cons.inj h).2, by decide +kernel⟩

end DashLive.Csrf

namespace DashLive.Life

/-- **After an API logout no refresh token of that account issued before it is ever accepted again**
(`hwf`: a `jti` belongs to one account – they are uuid4 values) -/
theorem api_logout_voids_refresh (st : St) (t : Tok) (hacc : tokAccepted st t .access = true)
    (t' : Tok) (hty : t'.typ = .refresh) (hown : t'.owner = t.owner) (hold : t'.jti < st.nextJti)
    (hwf : ∀ r ∈ st.rows, r.jti = t'.jti → r.owner = t'.owner)
    (evs : List Ev) (want : TokType) :
    tokAccepted (final (step st (.apiLogout t)).1 evs) t' want = false := by
  refine voided_final hty ⟨Nat.lt_of_lt_of_le hold (step_nextJti_mono st _), fun r hr hj ht => ?_⟩ evs want
  simp only [step, hacc, if_true] at hr
  rcases mem_revokeAccess hr with rfl | ⟨r1, h1, hof⟩
  · cases ht
  · exact hof.revoked
      (revokeAll_voids hown (fun r hr hj _ => hwf r hr hj) h1 (hof.jti ▸ hj) (hof.typ ▸ ht))

theorem html_logout_voids_refresh (st : St) (c : Cookie) (hacc : cookieAccepted st c = true)
    (t' : Tok) (hty : t'.typ = .refresh) (hown : t'.owner = c.owner) (hold : t'.jti < st.nextJti)
    (hwf : ∀ r ∈ st.rows, r.jti = t'.jti → r.owner = t'.owner)
    (evs : List Ev) (want : TokType) :
    tokAccepted (final (step st (.htmlLogout c)).1 evs) t' want = false := by
  refine voided_final hty ⟨Nat.lt_of_lt_of_le hold (step_nextJti_mono st _), fun r hr hj ht => ?_⟩ evs want
  simp only [step, hacc, if_true] at hr
  exact revokeAll_voids hown (fun r hr hj _ => hwf r hr hj) hr hj ht

/-- **Credentials of a deleted account are void for ever** (`Ev` has no event that creates an
account, so a deleted one never comes back) -/
theorem deleted_user_voids_everything (st : St) (u : Nat) (evs : List Ev) :
    (∀ (t : Tok) (want : TokType), t.owner = u →
      tokAccepted (final (step st (.deleteUser u)).1 evs) t want = false) ∧
    (∀ c : Cookie, c.owner = u → cookieAccepted (final (step st (.deleteUser u)).1 evs) c = false) := by
  have hf : (final (step st (.deleteUser u)).1 evs).users.contains u = false :=
    final_induction (fun s e => step_users_absent s e u) evs _ (deleteUser_absent st u)
  exact ⟨fun t want ho => tokAccepted_eq_false (.inr (ho ▸ hf)) want,
    fun c ho => cookieAccepted_of_absent (ho ▸ hf)⟩

/-- **The access token an API logout was called with is never accepted again** -/
theorem api_logout_voids_presented_access (st : St) (t : Tok) (hacc : tokAccepted st t .access = true)
    (hfresh : ∀ r ∈ st.rows, r.jti = t.jti → r.typ ≠ .access) (evs : List Ev) (want : TokType) :
    tokAccepted (final (step st (.apiLogout t)).1 evs) t want = false := by
  exact accessVoided_final (tokAccepted_iff.1 hacc).1 (accessVoided_apiLogout hacc hfresh) evs want

/-- **Negative result (open finding D14g).**  Access tokens are stateless: an access token of the
same account other than the one the logout was called with stays accepted until its `exp`. -/
theorem other_access_survives_api_logout :
    ∃ (st : St) (t t2 : Tok), tokAccepted st t .access = true ∧ t2.owner = t.owner ∧ t2.jti < st.nextJti ∧
      tokAccepted (step st (.apiLogout t)).1 t2 .access = true := by
  refine ⟨{ now := 10, rows := [], users := [1], nextJti := 5 },
    { jti := 1, owner := 1, typ := .access, exp := 900 },
    { jti := 2, owner := 1, typ := .access, exp := 905 }, by decide, rfl, by decide, by decide⟩

/-- **Negative result (open finding D14f).**  The session cookie is a signed value the server keeps
no record of: a copy presented after the logout is still accepted (until it is 31 days old). -/
theorem cookie_copy_survives_logout :
    ∃ (st : St) (c : Cookie), cookieAccepted st c = true ∧
      cookieAccepted (step st (.htmlLogout c)).1 c = true := by
  exact ⟨{ now := 10, rows := [], users := [1], nextJti := 5 }, { owner := 1, issued := 0 },
    by decide, by decide⟩

/-- non-vacuity of the logout theorems: a login's credentials are accepted before the logout,
the refresh token still after 8 days (its row has "expired" but nothing has pruned it) -/
example :
    let st0 : St := { now := 0, rows := [], users := [1], nextJti := 0 }
    let s1 := (step st0 (.login 1)).1
    let a : Tok := { jti := 0, owner := 1, typ := .access, exp := accessLife }
    let r : Tok := { jti := 1, owner := 1, typ := .refresh, exp := refreshJwtLife }
    tokAccepted s1 a .access = true ∧ tokAccepted s1 r .refresh = true ∧
      tokAccepted { s1 with now := 8 * 86400 } r .refresh = true ∧
      tokAccepted { s1 with now := 8 * 86400 } a .access = false := by
  decide +kernel

end DashLive.Life
