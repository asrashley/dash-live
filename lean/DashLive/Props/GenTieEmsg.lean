import DashLive.Gen.Emsg
import DashLive.Props.C14
/-!
# Translated `create_emsg_boxes` = C14's model

`Gen/Emsg.lean` is regenerated from /repo's source text on every run (`harness/gen_emsg.py`): the
`while presentation_time < seg_end` loop with its `continue` and two `break`s as a fuel recursion
over Boolean control variables `brk_` / `skip_` with guarded assignments, `raise ValueError` as
`none`, the two `return []` after the guards as early returns.  A change of `create_emsg_boxes`
that alters what it computes changes that file and breaks a proof here (→ failing-input search),
without anyone touching the hand-written model.

The simulation `tie_loop` (the model loop returns where the translated one sets `brk_`) gives
`gen_segment_exact`, and with `createEmsg_eq` the tie `tie_createEmsg`: the translated function is
`Events.createEmsg` for in-band schedules (`tie_createEmsg_oob` for the others).  The model's
`outOfFuel` / `assertionError` have no counterpart in the translated code (`assert` is not translated,
an exhausted fuel would return the partial list); `createEmsg_eq` shows that they never occur.
-/
open DashLive DashLive.Events
namespace DashLive.GenTie
open Gen.Emsg

/-- the `EventMessageBox(**kwargs)` the translated code builds for event `(id, time)` -/
def boxOf (s : Sched) (a : Int) (e : Ev) : EventMessageBox :=
  { version := s.version, flags := 0, timescale := s.timescale, event_duration := s.duration,
    event_id := e.id,
    presentation_time_delta := if s.version = 0 then some (e.pt - a) else none,
    presentation_time := if s.version = 0 then none else some e.pt }

/-- translated box → the model's `Emsg` (which has no `flags`: it is the constant 0) -/
def toEmsg (b : EventMessageBox) : Emsg :=
  { version := b.version, timescale := b.timescale, eventDuration := b.event_duration,
    eventId := b.event_id, delta := b.presentation_time_delta, pt := b.presentation_time }

theorem toEmsg_boxOf (s : Sched) (a : Int) (e : Ev) : toEmsg (boxOf s a e) = mkEmsg s a e := rfl

theorem fdiv_segStart (s : Sched) (repTs : Int) (g : Seg) :
    Int.fdiv (g.tfdt * s.timescale) repTs = segStart s repTs g := rfl

theorem fdiv_segEnd (s : Sched) (repTs : Int) (g : Seg) :
    Int.fdiv ((g.tfdt + g.dur) * s.timescale) repTs = segEnd s repTs g := rfl

/-- once the `break` flag is set the translated loop returns its state unchanged -/
theorem loop_brk (segDur : Int → Int) (b a i c v d t : Int) :
    ∀ (fuel : Nat) (id pt : Int) (rv : List EventMessageBox),
      createEmsgBoxes_while1 segDur (seg_end := b) (seg_start := a) (interval := i) (count := c)
        (version := v) (duration := d) (ev_timescale := t) fuel true id pt rv = (true, id, pt, rv) := by
  intro fuel id pt rv
  cases fuel with
  | zero => rfl
  | succ f => unfold createEmsgBoxes_while1; simp

theorem tie_loop (segDur : Int → Int) (s : Sched) (a b : Int) :
    ∀ (fuel : Nat) (id pt : Int) (rv : List EventMessageBox) (l : List Ev),
      emsgLoop s a b fuel id pt = some l →
      (createEmsgBoxes_while1 segDur (seg_end := b) (seg_start := a) (interval := s.interval)
        (count := s.count) (version := s.version) (duration := s.duration) (ev_timescale := s.timescale)
        fuel false id pt rv).2.2.2 = rv ++ l.map (boxOf s a) := by
  intro fuel
  induction fuel with
  | zero => intro id pt rv l h; cases h
  | succ f ih =>
    intro id pt rv l h
    unfold emsgLoop at h
    unfold createEmsgBoxes_while1
    by_cases h1 : pt < b
    · rw [if_neg (not_not_intro h1)] at h
      by_cases h2 : s.count > 0 ∧ id ≥ s.count
      · -- first `break`
        rw [if_pos h2] at h
        cases h
        simp only [h1, h2.1, h2.2, and_self, if_true, ite_self, loop_brk, List.map_nil, List.append_nil]
      · rw [if_neg h2] at h
        by_cases h3 : pt < a
        · -- `continue`
          rw [if_pos h3] at h
          simp only [h1, h2, h3, and_self, if_true, if_false, Bool.false_eq_true, ite_self]
          exact ih _ _ _ _ h
        · rw [if_neg h3] at h
          by_cases h4 : s.count > 0 ∧ id + 1 ≥ s.count
          · -- emit, second `break`
            rw [if_pos h4] at h
            cases h
            have hg : ¬ id ≥ s.count := fun hg => h2 ⟨h4.1, hg⟩
            simp only [h1, hg, h3, h4.1, h4.2, and_self, and_false, if_true, if_false, Bool.false_eq_true, loop_brk]
            rfl
          · -- emit, go on
            rw [if_neg h4] at h
            obtain ⟨l', hl', rfl⟩ := Option.map_eq_some_iff.mp h
            simp only [h1, h2, h3, h4, and_self, if_true, if_false, Bool.false_eq_true]
            rw [ih _ _ _ _ hl', List.append_assoc]
            rfl
    · rw [if_pos h1] at h
      cases h
      simp only [h1, and_false, if_false, List.map_nil, List.append_nil]

/-- what the request handler gets from the translated function, in the vocabulary of the model -/
def resOf : Option (List EventMessageBox) → Res (List Emsg)
  | none => .valueError
  | some l => .ok (l.map toEmsg)

/-- **the translated function returns exactly the scheduled events of the segment**: past its two
guards the same assembly as `emsgEvents_spec`, with `tie_loop` carrying the loop's result over -/
theorem gen_segment_exact (s : Sched) (hin : s.inband = true) (hi : 0 < s.interval) (repTs : Int) (g : Seg)
    (hmax : (segEnd s repTs g - segStart s repTs g) / s.interval ≤ maxEventsPerSegment) :
    createEmsgBoxes g.tfdt g.dur repTs s.interval s.timescale s.start s.count s.version s.duration
        maxEventsPerSegment (emsgFuel s (segEnd s repTs g)) =
      some ((scheduled s (segStart s repTs g) (segEnd s repTs g)).map (boxOf s (segStart s repTs g))) := by
  have _ := hin  -- plays no part: the translated function is already the `inband` specialisation
  have hm : ¬ (s.interval < 1 ∨
      Int.fdiv (segEnd s repTs g - segStart s repTs g) s.interval > maxEventsPerSegment) := by
    rw [Int.fdiv_eq_ediv_of_nonneg _ (Int.le_of_lt hi)]; omega
  simp only [createEmsgBoxes, fdiv_segStart, fdiv_segEnd, hm, if_false]
  refine congrArg some ?_
  by_cases h1 : s.start ≥ segEnd s repTs g
  · simp only [h1, if_true, scheduled_of_start_ge s hi _ _ h1, List.map_nil]
  · by_cases h2 : s.count > 0 ∧ s.start + s.count * s.interval < segStart s repTs g
    · simp only [h1, h2, and_self, if_true, if_false, scheduled_of_ended s hi _ _ h2, List.map_nil]
    · simp only [h1, h2, if_false]
      obtain ⟨-, hl⟩ := emsgLoop_start s hi _ _ h1 _ rfl
      exact (tie_loop _ s _ _ _ _ _ [] _ hl).trans (List.nil_append _)

/-- **the translated `create_emsg_boxes` is the model `createEmsg`**: same boxes, `ValueError` on
the same inputs (the model's `assertionError` / `outOfFuel`, which have no counterpart in the
translated code, never occur – `createEmsg_eq`) -/
theorem tie_createEmsg (s : Sched) (hin : s.inband = true) (repTs : Int) (g : Seg) :
    createEmsg s repTs g =
      resOf (createEmsgBoxes g.tfdt g.dur repTs s.interval s.timescale s.start s.count s.version s.duration
        maxEventsPerSegment (emsgFuel s (segEnd s repTs g))) := by
  rw [createEmsg_eq, if_neg (by rw [hin]; decide)]
  by_cases hi : s.interval < 1
  · simp only [createEmsgBoxes, hi, true_or, if_true, resOf]
  · by_cases hmax : (segEnd s repTs g - segStart s repTs g) / s.interval > maxEventsPerSegment
    · simp only [createEmsgBoxes, fdiv_segStart, fdiv_segEnd, Int.fdiv_eq_ediv_of_nonneg _ (by omega : 0 ≤ s.interval), hmax, or_true, if_true, resOf]
    · rw [if_neg (by omega), gen_segment_exact s hin (by omega) repTs g (Int.not_lt.mp hmax)]
      simp only [resOf, List.map_map, Function.comp_def, toEmsg_boxOf]

/-- out-of-band: no boxes, in the model and in the translated function -/
theorem tie_createEmsg_oob (s : Sched) (hin : s.inband = false) (repTs : Int) (g : Seg) :
    createEmsg s repTs g = .ok (createEmsgBoxesOob.map toEmsg) := by
  rw [createEmsg_eq, if_pos hin]
  rfl

/-- event ids carried by a run of requests answered by the translated function -/
def genRunIds (s : Sched) (repTs : Int) (segs : List Seg) : List Int :=
  segs.flatMap fun g =>
    ((createEmsgBoxes g.tfdt g.dur repTs s.interval s.timescale s.start s.count s.version s.duration
        maxEventsPerSegment (emsgFuel s (segEnd s repTs g))).getD []).map (·.event_id)

/-- **exactly once, for the translated function** (`emsg_exactly_once` composed with the tie):
over a contiguous run the translated `create_emsg_boxes` delivers the ids of the scheduled events
of `[A₀, B_last)`, each once, in order -/
theorem gen_exactly_once (s : Sched) (hin : s.inband = true) (hi : 0 < s.interval) (repTs : Int)
    (g : Seg) (rest : List Seg) (hc : Contiguous s repTs (g :: rest))
    (hmax : ∀ x ∈ g :: rest, (segEnd s repTs x - segStart s repTs x) / s.interval ≤ maxEventsPerSegment) :
    genRunIds s repTs (g :: rest) =
      (scheduled s (segStart s repTs g) (runEnd s repTs g rest)).map (·.id) := by
  rw [← emsg_exactly_once s hi repTs g rest hc]
  unfold genRunIds runEvents
  generalize g :: rest = segs at hmax
  induction segs with
  | nil => rfl
  | cons x xs ih =>
    rw [List.flatMap_cons, List.flatMap_cons, List.map_append,
      gen_segment_exact s hin hi repTs x (hmax x List.mem_cons_self),
      ih (fun y hy => hmax y (List.mem_cons_of_mem _ hy))]
    simp only [Option.getD_some, List.map_map]
    rfl

end DashLive.GenTie
