import DashLive.Lemmas.IsoText
/-!
# C19 – ISO-8601 time text is faithful to the value it encodes

The property theorems (their lemmas are in `Lemmas/IsoText.lean`).  The
model (`Model/IsoText.lean`) follows `/repo` *after* the two `fix:` commits
4ed7205 (D1, millisecond carry) and 83b2cb3 (D2, exact fractional seconds), so
the duration and date-time theorems carry no hypothesis about those defects.

Quantification: every duration value `v ≥ 0` in microseconds and **every**
admissible result of the float front end (nearest millisecond, either
neighbour on a tie); every date-time accepted by Python's `datetime`
constructor with every whole-minute offset Python's `isoformat()` accepts (and
naive values); every timecode / timedelta in `Int` and every timescale `> 0`.
All round-trip theorems are about the *text*: the renderers produce a `List Char`,
`fromIsoDateTime` is the model of `from_isodatetime` reading it.
-/
namespace DashLive.IsoText

/-- **Exact parse of the rendered text**: for every whole-second count and every
millisecond count `≤ 1000` the parser reads back exactly `secs + ms/1000`. -/
theorem duration_parse_render (secs ms : Nat) (hms : ms ≤ 1000) :
    parseDuration (isoDurationBack secs ms) = some ((secs * 1000 + ms) * 1000) := by
  obtain ⟨h, m, s, f, heq, hf, -, -, hval⟩ := isoDurationBack_eq secs ms hms
  rw [heq, parseDuration_lex h m s f hf, hval]

/-- For every value `v` (µs) and every admissible
rounding `ms` of its fractional part, `from_isodatetime(toIsoDuration(v))` is a
`timedelta` within 500 µs of `v`. -/
theorem duration_roundtrip (v ms : Nat) (h : Admissible (v % 1000000) ms) :
    ∃ p, fromIsoDateTime (isoDurationBack (v / 1000000) ms) = some (.duration p)
      ∧ p ≤ v + 500 ∧ v ≤ p + 500 := by
  have hms := admissible_le_1000 (Nat.mod_lt v (by decide)) h
  unfold Admissible at h
  refine ⟨(v / 1000000 * 1000 + ms) * 1000, ?_, by omega, by omega⟩
  rw [fromIsoDateTime_P (s := isoDurationBack _ _) rfl, duration_parse_render _ _ hms]
  rfl

/-- the same with the exact front end: `toIsoDuration` of the model -/
theorem duration_roundtrip_exact (v : Nat) :
    ∃ p, fromIsoDateTime (toIsoDuration v) = some (.duration p) ∧ p ≤ v + 500 ∧ v ≤ p + 500 :=
  duration_roundtrip v _ (roundMs_admissible _)

-- literals this short are evaluated as they stand; Props/C05 says when `String.toList_ofList` comes first
example : toIsoDuration 5999600 = "PT6S".toList := by decide +kernel
example : toIsoDuration 3599999500 = "PT1H0M0S".toList := by decide +kernel
example : toIsoDuration 3725050000 = "PT1H2M5.05S".toList := by decide +kernel
example : isoDurationBack 59 1000 = "PT1M0S".toList := by decide +kernel
example : fromIsoDateTime "PT1H2M5.05S".toList = some (.duration 3725050000) := by decide +kernel

/-- The lexical form `PT(\d+H)?(\d+M)?\d+(\.\d{1,3})?S` (a valid `xs:duration`)
with the minutes and seconds fields below 60. -/
def DurationLex (t : Text) : Prop :=
  ∃ (h m : Option Nat) (s : Nat) (fs : Text),
    t = ['P', 'T'] ++ optUnit h 'H' ++ optUnit m 'M' ++ dec s
          ++ (if fs = [] then [] else '.' :: fs) ++ ['S']
    ∧ (∀ x, m = some x → x < 60) ∧ s < 60
    ∧ fs.length ≤ 3 ∧ (∀ c ∈ fs, c.isDigit = true)

/-- Every text the back end produces (any whole-second
count, any millisecond count up to and including the carry case 1000) is a
valid `xs:duration` whose minutes and seconds fields are below 60. -/
theorem duration_lexical (secs ms : Nat) (hms : ms ≤ 1000) :
    DurationLex (isoDurationBack secs ms) := by
  obtain ⟨h, m, s, f, heq, hf, hs, hm, -⟩ := isoDurationBack_eq secs ms hms
  obtain ⟨fs, hfs, hlen, hdig, -⟩ := fracPart_spec hf
  refine ⟨h, m, s, fs, ?_, hm, hs, hlen, hdig⟩
  rw [heq, hmsText, hfs]
  simp only [List.cons_append, List.nil_append, List.append_assoc]

/-- For every date-time the `datetime` constructor
accepts (`valid`), with every offset `isoformat()` accepts (whole minutes,
|offset| < 24 h, or naive): parsing the text `to_iso_datetime` writes gives back
every field, the microseconds included, and the same UTC offset (a naive value
comes back as UTC, which is what the `Z` written for it says). -/
theorem datetime_roundtrip (d : DateTime) (hv : d.valid = true) (ho : d.offsetOk = true) :
    fromIsoDateTime (toIsoDateTime d)
      = some (.datetime { d with offset := some (d.offset.getD 0) }) := by
  rw [toIsoDateTime_eq d ho]
  -- the text starts with a digit (so it is neither empty nor a duration) and contains `T`
  obtain ⟨c, cs, hc⟩ := List.exists_cons_of_ne_nil (pad_ne_nil 4 d.year)
  have hcd : c.isDigit = true := allDigits_pad 4 d.year c (hc ▸ List.mem_cons_self)
  have hcP : c ≠ 'P' := fun h => absurd (h ▸ hcd) (by decide)
  unfold fromIsoDateTime
  rw [if_neg (by simp [bodyText, hc]), if_neg (by simp [bodyText, hc, hcP]),
    if_pos (by simp [bodyText]), parseDateTime_render d hv]
  rfl

/-- "same instant, same offset, fractional seconds included", spelled out -/
theorem datetime_roundtrip_instant (d : DateTime) (hv : d.valid = true) (ho : d.offsetOk = true) :
    ∃ p, fromIsoDateTime (toIsoDateTime d) = some (.datetime p)
      ∧ p.instant = d.instant ∧ p.offset = some (d.offset.getD 0) ∧ p.micro = d.micro :=
  ⟨_, datetime_roundtrip d hv ho, by simp [DateTime.instant], rfl, rfl⟩

example : toIsoDateTime (DateTime.mk 2023 7 25 12 34 56 1 (some (-330)))
    = "2023-07-25T12:34:56.000001-05:30".toList := by decide +kernel
example : toIsoDateTime (DateTime.mk 1 1 1 0 0 0 0 (some 0)) = "0001-01-01T00:00:00Z".toList := by
  decide +kernel
example : toIsoDateTime (DateTime.mk 1999 12 31 23 59 59 0 none) = "1999-12-31T23:59:59Z".toList := by
  decide +kernel
example : (DateTime.mk 2024 2 29 23 59 59 999999 (some 1439)).valid = true
    ∧ (DateTime.mk 2024 2 29 23 59 59 999999 (some 1439)).offsetOk = true := by decide

/-- `timedelta_to_timecode` and `multiply_timedelta` are exactly `⌊k·δ/10⁶⌋`
(the days/seconds/microseconds split loses nothing) -/
theorem timecode_is_floor (delta ts : Int) :
    timedeltaToTimecode delta ts = ts * delta / 1000000
      ∧ multiplyTimedelta delta ts = ts * delta / 1000000 :=
  ⟨timedeltaToTimecode_eq delta ts, multiplyTimedelta_eq delta ts⟩

/-- Both directions are monotone, for every timescale `> 0`. -/
theorem tc_mono (ts : Int) (hts : 0 < ts) :
    (∀ a b : Int, a ≤ b → timecodeToTimedelta a ts ≤ timecodeToTimedelta b ts)
    ∧ (∀ a b : Int, a ≤ b → timedeltaToTimecode a ts ≤ timedeltaToTimecode b ts) := by
  constructor
  · intro a b hab
    rw [timecodeToTimedelta_eq a ts hts, timecodeToTimedelta_eq b ts hts]
    exact Int.ediv_le_ediv hts (by omega)
  · intro a b hab
    rw [timedeltaToTimecode_eq, timedeltaToTimecode_eq]
    exact Int.ediv_le_ediv (by decide) (Int.mul_le_mul_of_nonneg_left hab (Int.le_of_lt hts))

/-- timecode → timedelta → timecode, every timescale `> 0`: never gains, and
loses less than `ts/10⁶ + 1` ticks (the microsecond resolution of `timedelta`). -/
theorem tc_roundtrip_general (tc ts : Int) (hts : 0 < ts) :
    timedeltaToTimecode (timecodeToTimedelta tc ts) ts ≤ tc
    ∧ (tc - timedeltaToTimecode (timecodeToTimedelta tc ts) ts) * 1000000 < ts + 1000000 := by
  rw [timedeltaToTimecode_eq, timecodeToTimedelta_eq tc ts hts, Int.mul_comm ts]
  exact floor_roundtrip tc 1000000 ts (by decide) hts

/-- For timescales up to 10⁶ (one tick ≥ 1 µs) the two directions invert each other to
within one tick.  Total in its inputs; "partial" is what it concludes: exactness fails,
e.g. at `ts = 90000` (the example below). -/
theorem tc_roundtrip_partial (tc ts : Int) (hts : 0 < ts) (hle : ts ≤ 1000000) :
    tc - 1 ≤ timedeltaToTimecode (timecodeToTimedelta tc ts) ts
    ∧ timedeltaToTimecode (timecodeToTimedelta tc ts) ts ≤ tc := by
  obtain ⟨h1, h2⟩ := tc_roundtrip_general tc ts hts
  omega

/-- non-vacuity: a usual timescale satisfies the hypotheses and really loses a tick -/
example : (0 : Int) < 90000 ∧ (90000 : Int) ≤ 1000000
    ∧ timedeltaToTimecode (timecodeToTimedelta 1 90000) 90000 = 0 := by decide

/-- D3: outside the hypothesis (timescale 10⁷) 19 ticks come back as 10 -/
example : ¬ (19 - 1 ≤ timedeltaToTimecode (timecodeToTimedelta 19 10000000) 10000000) := by decide

/-- timedelta → timecode → timedelta, **every** timescale `> 0`: never later, and
earlier by less than one tick plus the 1 µs resolution:
`δ − 10⁶/ts − 1 < toTd (toTc δ) ≤ δ`, stated without division. -/
theorem td_roundtrip (delta ts : Int) (hts : 0 < ts) :
    timecodeToTimedelta (timedeltaToTimecode delta ts) ts ≤ delta
    ∧ (delta - timecodeToTimedelta (timedeltaToTimecode delta ts) ts) * ts < 1000000 + ts := by
  rw [timecodeToTimedelta_eq _ ts hts, timedeltaToTimecode_eq, Int.mul_comm ts]
  exact floor_roundtrip delta ts 1000000 hts (by decide)

/-- in the tick domain the loss is at most one tick for timescales ≤ 10⁶ -/
theorem td_roundtrip_ticks (delta ts : Int) (hts : 0 < ts) (hle : ts ≤ 1000000) :
    timedeltaToTimecode delta ts - 1
        ≤ timedeltaToTimecode (timecodeToTimedelta (timedeltaToTimecode delta ts) ts) ts
    ∧ timedeltaToTimecode (timecodeToTimedelta (timedeltaToTimecode delta ts) ts) ts
        ≤ timedeltaToTimecode delta ts :=
  tc_roundtrip_partial _ ts hts hle

end DashLive.IsoText
