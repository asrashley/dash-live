import DashLive.Lemmas.Events
import DashLive.Lemmas.Scte35
import DashLive.Lemmas.Crc32
/-!
# C14 – timed events are delivered exactly once and decode to their schedule

First the in-band / out-of-band event *scheduling* of `RepeatingEventBase` – for every schedule
(all fields arbitrary Python ints), every representation timescale and every segment / run of
segments – and the text → `int` reading of the integer event options (`evopt_*`), with test vectors
for both.  From `emsg_box_roundtrip` on, the emsg box codec, CRC-32/MPEG-2 and the SCTE-35
splice_info_section – for every field value inside its bit width, every message, every well-formed
signal (`Signal.wf`, Lemmas/Scte35.lean), every schedule.  Also here: the vocabulary of the
statements about runs of segments (`runEvents`, `Contiguous`, `MediaContiguous`, `runEnd`,
`carries`) and what the specification `scheduled` means (`mem_scheduled`, `scheduled_sorted`).
-/
namespace DashLive.Events

/-- **`create_emsg_boxes` terminates**: for *every* schedule and segment the loop
finishes within the stated fuel `(seg_end − start)/interval + 2`
(`interval < 1` is refused with `ValueError` before the loop – fix a993bc6). -/
theorem emsg_terminates (s : Sched) (repTs : Int) (g : Seg) :
    createEmsg s repTs g ≠ .outOfFuel := by
  rw [createEmsg_eq]
  (repeat' split) <;> nofun

/-- the `assert (event_id >= 0)` of line 103 can never fire -/
theorem emsg_no_assertion (s : Sched) (repTs : Int) (g : Seg) :
    createEmsg s repTs g ≠ .assertionError := by
  rw [createEmsg_eq]
  (repeat' split) <;> nofun

/-- `ValueError` exactly for an in-band schedule with `interval < 1` (fix a993bc6)
or with more than `MAX_EVENTS_PER_SEGMENT` intervals in the segment (fix 8c4223f) -/
theorem emsg_value_error_iff (s : Sched) (repTs : Int) (g : Seg) :
    createEmsg s repTs g = .valueError ↔
      (s.inband = true ∧ (s.interval < 1 ∨
        (segEnd s repTs g - segStart s repTs g) / s.interval > maxEventsPerSegment)) := by
  rw [createEmsg_eq]
  cases s.inband
  · simp
  · by_cases h : s.interval < 1 ∨
        (segEnd s repTs g - segStart s repTs g) / s.interval > maxEventsPerSegment <;> simp [h]

/-- **D13b (why the guard is needed).** Without the guard of lines 67-70 the loop of lines 106-136
diverges: with `interval = 0` and an unbounded schedule, once an event lies in the
segment no amount of fuel lets the loop finish … -/
theorem emsgLoop_diverges_interval_zero (s : Sched) (h0 : s.interval = 0) (hc : s.count ≤ 0)
    (a b pt : Int) (h1 : a ≤ pt) (h2 : pt < b) :
    ∀ (fuel : Nat) (id : Int), emsgLoop s a b fuel id pt = none := by
  intro fuel
  induction fuel with
  | zero => intro id; rfl
  | succ fuel ih =>
    intro id
    unfold emsgLoop
    have c1 : ¬ (s.count > 0 ∧ id ≥ s.count) := by omega
    have c2 : ¬ (s.count > 0 ∧ id + 1 ≥ s.count) := by omega
    have c3 : ¬ pt < a := by omega
    simp only [h2, not_true_eq_false, if_false, c1, c2, c3, h0, Int.add_zero, ih,
      Option.map_none]

/-- … and with a negative interval it skips backwards for ever. -/
theorem emsgLoop_diverges_interval_neg (s : Sched) (h0 : s.interval < 0) (hc : s.count ≤ 0)
    (a b : Int) (hab : a ≤ b) :
    ∀ (fuel : Nat) (id pt : Int), pt < a → emsgLoop s a b fuel id pt = none := by
  intro fuel
  induction fuel with
  | zero => intro id pt _; rfl
  | succ fuel ih =>
    intro id pt hpt
    unfold emsgLoop
    have c0 : pt < b := by omega
    have c1 : ¬ (s.count > 0 ∧ id ≥ s.count) := by omega
    simp only [c0, not_true_eq_false, if_false, c1, hpt, if_true]
    exact ih _ _ (by omega)

theorem seg_ordered (s : Sched) (repTs : Int) (g : Seg) (hts : 0 ≤ s.timescale) (hr : 0 < repTs)
    (hd : 0 ≤ g.dur) : segStart s repTs g ≤ segEnd s repTs g := by
  unfold segStart segEnd
  rw [pydiv_pos _ hr, pydiv_pos _ hr]
  apply Int.ediv_le_ediv hr
  rw [Int.add_mul]
  have := Int.mul_nonneg hd hts
  omega

/-- **`create_emsg_boxes` returns exactly the scheduled events of the segment.**
For every in-band schedule with `interval ≥ 1`, every representation timescale and
every segment: the boxes are those of `scheduled s A B` (the events `k` with
`A ≤ start + k·interval < B`, `k < count` if `count > 0`; see `mem_scheduled`),
in increasing order of `k` – provided the segment spans at most
`MAX_EVENTS_PER_SEGMENT` intervals (otherwise the call is refused, see
`emsg_value_error_iff`; ledger D13k). -/
theorem emsg_segment_exact (s : Sched) (hin : s.inband = true) (hi : 0 < s.interval)
    (repTs : Int) (g : Seg)
    (hmax : (segEnd s repTs g - segStart s repTs g) / s.interval ≤ maxEventsPerSegment) :
    createEmsg s repTs g =
      .ok ((scheduled s (segStart s repTs g) (segEnd s repTs g)).map
            (mkEmsg s (segStart s repTs g))) := by
  rw [createEmsg_eq, if_neg (by rw [hin]; decide), if_neg (by omega)]

/-- whenever the call succeeds it returns exactly the scheduled events of the segment
(no side condition: the only other outcome is the `ValueError` of `emsg_value_error_iff`) -/
theorem emsg_ok_exact (s : Sched) (repTs : Int) (g : Seg) (l : List Emsg)
    (h : createEmsg s repTs g = .ok l) :
    l = if s.inband then (scheduled s (segStart s repTs g) (segEnd s repTs g)).map
                           (mkEmsg s (segStart s repTs g)) else [] := by
  rw [createEmsg_eq] at h
  cases hin : s.inband <;> rw [hin] at h
  · cases h; rfl
  · rw [if_neg (by decide)] at h
    split at h
    · cases h
    · cases h; rfl

theorem emsg_not_inband (s : Sched) (hin : s.inband = false) (repTs : Int) (g : Seg) :
    createEmsg s repTs g = .ok [] := by
  rw [createEmsg_eq, if_pos hin]

theorem mem_scheduled (s : Sched) (hi : 0 < s.interval) (a b : Int) (e : Ev) :
    e ∈ scheduled s a b ↔
      (0 ≤ e.id ∧ e.pt = s.start + e.id * s.interval ∧ a ≤ e.pt ∧ e.pt < b ∧
        (s.count > 0 → e.id < s.count)) := by
  rw [scheduled, List.mem_map]
  constructor
  · rintro ⟨k, hk, rfl⟩
    obtain ⟨h0, h1, h2, h3⟩ := (mem_cap_range s hi a b k).mp hk
    exact ⟨h0, rfl, h1, h2, h3⟩
  · rintro ⟨h0, hpt, h1, h2, h3⟩
    have ht : evTime s e.id = e.pt := hpt.symm
    exact ⟨e.id, (mem_cap_range s hi a b e.id).mpr ⟨h0, ht ▸ h1, ht ▸ h2, h3⟩, by rw [ht]⟩

theorem scheduled_sorted (s : Sched) (a b : Int) :
    List.Pairwise (· < ·) ((scheduled s a b).map (·.id)) := by
  rw [scheduled_ids]
  exact idsFrom_sorted _ _

theorem emsg_mem (s : Sched) (repTs : Int) (g : Seg) (l : List Emsg)
    (h : createEmsg s repTs g = .ok l) (x : Emsg) (hx : x ∈ l) :
    ∃ e ∈ scheduled s (segStart s repTs g) (segEnd s repTs g), mkEmsg s (segStart s repTs g) e = x := by
  rw [emsg_ok_exact s repTs g l h] at hx
  split at hx
  · exact List.mem_map.mp hx
  · cases hx

/-- **every emitted event lies in its segment, has `id = k`, and exists in the schedule** -/
theorem emsg_in_segment (s : Sched) (hi : 0 < s.interval) (repTs : Int) (g : Seg)
    (l : List Emsg) (h : createEmsg s repTs g = .ok l) (x : Emsg) (hx : x ∈ l) :
    0 ≤ x.eventId ∧
    segStart s repTs g ≤ s.start + x.eventId * s.interval ∧
    s.start + x.eventId * s.interval < segEnd s repTs g ∧
    (s.count > 0 → x.eventId < s.count) ∧
    x.version = s.version ∧ x.timescale = s.timescale ∧ x.eventDuration = s.duration := by
  obtain ⟨e, he, rfl⟩ := emsg_mem s repTs g l h x hx
  obtain ⟨h0, hpt, h1, h2, h3⟩ := (mem_scheduled s hi _ _ e).mp he
  rw [show (mkEmsg s (segStart s repTs g) e).eventId = e.id from rfl, ← hpt]
  exact ⟨h0, h1, h2, h3, rfl, rfl, rfl⟩

/-- **the time field of every emitted event resolves to the scheduled instant**: version 0 carries
the non-negative delta from the segment start, any other version the absolute time -/
theorem emsg_time_resolves (s : Sched) (hi : 0 < s.interval) (repTs : Int) (g : Seg)
    (l : List Emsg) (h : createEmsg s repTs g = .ok l) (x : Emsg) (hx : x ∈ l) :
    (s.version = 0 →
      ∃ d, x.delta = some d ∧ x.pt = none ∧ 0 ≤ d ∧
        segStart s repTs g + d = s.start + x.eventId * s.interval) ∧
    (s.version ≠ 0 →
      x.delta = none ∧ x.pt = some (s.start + x.eventId * s.interval)) := by
  obtain ⟨e, he, rfl⟩ := emsg_mem s repTs g l h x hx
  obtain ⟨-, hpt, h1, -⟩ := (mem_scheduled s hi _ _ e).mp he
  simp only [mkEmsg]
  rw [← hpt]
  constructor
  · intro hv
    simp only [hv, if_true]
    exact ⟨_, rfl, trivial, by omega, by omega⟩
  · intro hv
    simp only [hv, if_false, and_self]

/-- the `(event_id, time)` pairs carried by a run of segment requests, concatenated
in request order -/
def runEvents (s : Sched) (repTs : Int) (segs : List Seg) : List Ev :=
  segs.flatMap fun g => scheduled s (segStart s repTs g) (segEnd s repTs g)

/-- consecutive segments abut in the event timebase, each interval is ordered -/
def Contiguous (s : Sched) (repTs : Int) : List Seg → Prop
  | [] => True
  | [g] => segStart s repTs g ≤ segEnd s repTs g
  | g :: g' :: rest =>
    segStart s repTs g ≤ segEnd s repTs g ∧ segEnd s repTs g = segStart s repTs g' ∧
    Contiguous s repTs (g' :: rest)

instance decContiguous (s : Sched) (repTs : Int) : (l : List Seg) → Decidable (Contiguous s repTs l)
  | [] => isTrue trivial
  | [g] => inferInstanceAs (Decidable (segStart s repTs g ≤ segEnd s repTs g))
  | g :: g' :: rest =>
    have := decContiguous s repTs (g' :: rest)
    inferInstanceAs (Decidable (segStart s repTs g ≤ segEnd s repTs g ∧
      segEnd s repTs g = segStart s repTs g' ∧ Contiguous s repTs (g' :: rest)))

/-- consecutive segments abut in the *media* timebase (`tfdt' = tfdt + duration`) -/
def MediaContiguous : List Seg → Prop
  | [] => True
  | [_] => True
  | g :: g' :: rest => g'.tfdt = g.tfdt + g.dur ∧ MediaContiguous (g' :: rest)

/-- end of the last interval of a non-empty run -/
def runEnd (s : Sched) (repTs : Int) (g : Seg) (rest : List Seg) : Int :=
  segEnd s repTs ((g :: rest).getLast (List.cons_ne_nil _ _))

theorem runEnd_cons (s : Sched) (repTs : Int) (g g' : Seg) (rest : List Seg) :
    runEnd s repTs g (g' :: rest) = runEnd s repTs g' rest := by
  simp [runEnd]

theorem contiguous_ordered (s : Sched) (repTs : Int) (g : Seg) (rest : List Seg)
    (h : Contiguous s repTs (g :: rest)) : segStart s repTs g ≤ runEnd s repTs g rest := by
  induction rest generalizing g with
  | nil => simpa [runEnd, Contiguous] using h
  | cons g' rest ih =>
    obtain ⟨h1, h2, h3⟩ := h
    rw [runEnd_cons]
    have := ih g' h3
    omega

/-- every request of the run answers with exactly its scheduled boxes
(so `runEvents` *is* what the run of requests carries) -/
theorem run_requests_ok (s : Sched) (hin : s.inband = true) (hi : 0 < s.interval) (repTs : Int)
    (segs : List Seg)
    (hmax : ∀ g ∈ segs, (segEnd s repTs g - segStart s repTs g) / s.interval ≤ maxEventsPerSegment) :
    ∀ g ∈ segs, createEmsg s repTs g =
      .ok ((scheduled s (segStart s repTs g) (segEnd s repTs g)).map
        (mkEmsg s (segStart s repTs g))) :=
  fun g hg => emsg_segment_exact s hin hi repTs g (hmax g hg)

/-- **Exactly once.** For any run of segments whose event-timebase intervals are
contiguous (`Bᵢ = Aᵢ₊₁`), the concatenation of the events carried by the
individual segments is exactly the scheduled events of `[A₀, B_last)`: every such
event once, in order, nothing else (`mem_scheduled`, `scheduled_sorted`). -/
theorem emsg_exactly_once (s : Sched) (hi : 0 < s.interval) (repTs : Int)
    (g : Seg) (rest : List Seg) (hc : Contiguous s repTs (g :: rest)) :
    runEvents s repTs (g :: rest) = scheduled s (segStart s repTs g) (runEnd s repTs g rest) := by
  induction rest generalizing g with
  | nil => simp [runEvents, runEnd]
  | cons g' rest ih =>
    obtain ⟨h1, h2, h3⟩ := hc
    show scheduled s _ (segEnd s repTs g) ++ runEvents s repTs (g' :: rest) = _
    rw [ih g' h3, runEnd_cons, ← h2,
      scheduled_append s hi h1 (h2 ▸ contiguous_ordered s repTs g' rest h3)]

/-- does segment `g`'s event-timebase interval contain scheduled event `k` -/
def carries (s : Sched) (repTs : Int) (k : Int) (g : Seg) : Bool :=
  decide (0 ≤ k ∧ segStart s repTs g ≤ s.start + k * s.interval ∧
    s.start + k * s.interval < segEnd s repTs g ∧ (s.count > 0 → k < s.count))

/-- **how often is an event delivered** – for *any* run of segment requests
(contiguous or not): event `k` is carried once for every segment whose
event-timebase interval contains its time (and never if it is not in the
schedule).  Exactly-once ⇔ exactly one interval contains it; a gap between two
intervals loses the events in it, an overlap duplicates them (ledger D13a). -/
theorem emsg_delivery_count (s : Sched) (hi : 0 < s.interval) (repTs : Int) (segs : List Seg) (k : Int) :
    ((runEvents s repTs segs).map (·.id)).count k = (segs.filter (carries s repTs k)).length := by
  induction segs with
  | nil => simp [runEvents]
  | cons g rest ih =>
    unfold runEvents at ih ⊢
    rw [List.flatMap_cons, List.map_append, List.count_append, ih, List.filter_cons]
    have hnd : ((scheduled s (segStart s repTs g) (segEnd s repTs g)).map (·.id)).Nodup :=
      (scheduled_sorted s _ _).imp (fun hab => Int.ne_of_lt hab)
    have hm : k ∈ (scheduled s (segStart s repTs g) (segEnd s repTs g)).map (·.id) ↔
        carries s repTs k g = true := by
      rw [scheduled_ids, carries, decide_eq_true_eq]
      exact mem_cap_range s hi _ _ k
    rw [hnd.count]
    by_cases hk : carries s repTs k g = true
    · rw [if_pos (hm.mpr hk), if_pos hk, List.length_cons]; omega
    · rw [if_neg (fun h => hk (hm.mp h)), if_neg hk]; omega

/-- media-level statement of the hypothesis: a run in which every segment starts
where the previous one ended *in the media timebase* (true inside a loop of the
source, and across a loop when the representation is as long as the stream's
timing reference) is contiguous in the event timebase, for every pair of
timescales. -/
theorem contiguous_of_media_run (s : Sched) (repTs : Int) (hts : 0 ≤ s.timescale) (hr : 0 < repTs)
    (segs : List Seg) (hd : ∀ g ∈ segs, 0 ≤ g.dur)
    (hm : MediaContiguous segs) :
    Contiguous s repTs segs := by
  induction segs with
  | nil => trivial
  | cons g rest ih =>
    cases rest with
    | nil => exact seg_ordered s repTs g hts hr (hd g (List.mem_cons_self))
    | cons g' rest =>
      refine ⟨seg_ordered s repTs g hts hr (hd g (List.mem_cons_self)),
        by unfold segStart segEnd; rw [hm.1], ?_⟩
      exact ih (fun x hx => hd x (List.mem_cons_of_mem _ hx)) hm.2

theorem oobLoop_eq (s : Sched) (n : Nat) (k : Int) :
    oobLoop s n k (evTime s k) = (idsFrom k n).map (fun j => ⟨j, evTime s j, s.duration⟩) := by
  induction n generalizing k with
  | zero => rfl
  | succ n ih => simp only [oobLoop, idsFrom, List.map_cons, evTime_succ, ih]

/-- **the manifest lists ids `0 … count−1` with the scheduled times** (when the
events are out-of-band and `count > 0`; otherwise it lists nothing) -/
theorem oob_list (s : Sched) :
    manifestEvents s =
      if s.inband = false ∧ s.count > 0 then
        (idRange 0 s.count).map (fun k => ⟨k, s.start + k * s.interval, s.duration⟩)
      else [] := by
  have h0 := oobLoop_eq s s.count.toNat 0
  simp only [evTime, Int.zero_mul, Int.add_zero] at h0
  unfold manifestEvents
  cases s.inband <;> simp [h0, idRange]

/-- **the out-of-band list is the in-band schedule**: the `(id, time)` pairs the
manifest lists are exactly those the segments covering `[start, start + count·interval)`
would carry in-band -/
theorem oob_same_schedule (s : Sched) (hi : 0 < s.interval) (hc : s.count > 0)
    (hin : s.inband = false) :
    (manifestEvents s).map (fun e => (⟨e.id, e.pt⟩ : Ev)) =
      scheduled s s.start (s.start + s.count * s.interval) := by
  have f0 : firstIdx s s.start = 0 := if_pos (Int.le_refl _)
  have f1 : firstIdx s (s.start + s.count * s.interval) = s.count :=
    firstIdx_evTime s hi s.count (by omega)
  have c0 : cap s 0 = 0 := by rw [cap_of_pos hc]; omega
  have c1 : cap s s.count = s.count := by rw [cap_of_pos hc]; omega
  rw [oob_list, if_pos ⟨hin, hc⟩, List.map_map, scheduled, f0, f1, c0, c1]
  rfl

/-- **`<event>__start`, `count`, `duration`, `timescale`, `version`, `program_id`**: the canonical
decimal text of *any* integer `z` (no bound on its magnitude – 2⁵³ is not special) is read as
exactly `z` by `int_or_default_from_string` -/
theorem evopt_exact (dflt z : Int) : parseEventInt dflt false (decimalOf z) = .ok z := by
  unfold parseEventInt
  have h := decimalOf_ne z
  simp only [h.1, h.2, or_self, if_false, pyInt_decimalOf, Bool.false_eq_true, false_and]

/-- **`<event>__interval`** (`positive_int_or_default_from_string`): read exactly when `≥ 1`,
refused (`ValueError` → 400) otherwise -/
theorem evopt_interval_exact (dflt z : Int) :
    parseEventInt dflt true (decimalOf z) = if z < 1 then .valueError else .ok z := by
  unfold parseEventInt
  have h := decimalOf_ne z
  simp only [h.1, h.2, or_self, if_false, pyInt_decimalOf, true_and]

/-- an absent value (`''`, `'none'`) selects the default -/
theorem evopt_default (dflt : Int) (positive : Bool) :
    parseEventInt dflt positive [] = .ok dflt ∧
    parseEventInt dflt positive ['n', 'o', 'n', 'e'] = .ok dflt := by
  constructor <;> simp [parseEventInt]

/-- decimal points and exponents are *refused*, never rounded: `'1000.0'`, `'9e4'` and an odd value
above 2⁵³ written with a fraction are `ValueError`s, the odd value itself is exact -/
example : parseEventInt 0 false "1000.0".toList = .valueError := by decide +kernel
example : parseEventInt 0 false "9e4".toList = .valueError := by decide +kernel
example : parseEventInt 0 false "9007199254740993.0".toList = .valueError := by decide +kernel
example : parseEventInt 0 false "9007199254740993".toList = .ok 9007199254740993 := by decide +kernel
example : parseEventInt 0 false " +1_000\n".toList = .ok 1000 := by decide +kernel
example : decimalOf (-9007199254740993) = "-9007199254740993".toList := by decide +kernel

def exSched : Sched :=
  { start := 25, interval := 10, count := 5, duration := 3, timescale := 100, version := 0,
    inband := true }

/-- three consecutive segments of 96 ticks of a 240 Hz representation (0.4 s each):
event-timebase (100 Hz) intervals [0,40) [40,80) [80,120) -/
def exRun : List Seg := [⟨0, 96⟩, ⟨96, 96⟩, ⟨192, 96⟩]

example : Contiguous exSched 240 exRun := by decide +kernel
example : runEvents exSched 240 exRun =
    [⟨0, 25⟩, ⟨1, 35⟩, ⟨2, 45⟩, ⟨3, 55⟩, ⟨4, 65⟩] := by decide +kernel
example : createEmsg exSched 240 ⟨96, 96⟩ =
    .ok [⟨0, 100, 3, 2, some 5, none⟩, ⟨0, 100, 3, 3, some 15, none⟩, ⟨0, 100, 3, 4, some 25, none⟩] := by
  decide +kernel
/-- an event exactly on a segment boundary (time 40 = end of segment 1 = start of
segment 2 when start = 20) goes to the later segment only -/
example : (createEmsg { exSched with start := 20 } 240 ⟨0, 96⟩,
           createEmsg { exSched with start := 20 } 240 ⟨96, 96⟩) =
    (.ok [⟨0, 100, 3, 0, some 20, none⟩, ⟨0, 100, 3, 1, some 30, none⟩],
     .ok [⟨0, 100, 3, 2, some 0, none⟩, ⟨0, 100, 3, 3, some 10, none⟩, ⟨0, 100, 3, 4, some 20, none⟩]) := by
  decide +kernel

/-- **D13a (excluded case of `emsg_exactly_once`).** Across a loop of the source
with drift (the representation is 5 ticks shorter than the stream's timing
reference: the next loop starts at 293, not 288) the intervals are not contiguous
and the event falling into the gap (id 9, time 121 ∈ [120, 122)) is never
delivered. -/
example : ¬ Contiguous { exSched with start := 31, count := 0 } 240 [⟨192, 96⟩, ⟨293, 96⟩] := by
  decide +kernel
example : (runEvents { exSched with start := 31, count := 0 } 240 [⟨192, 96⟩, ⟨293, 96⟩]).map (·.id)
    = [5, 6, 7, 8, 10, 11, 12, 13] := by decide +kernel

/-- … and with negative drift (the next loop starts at 283, before the previous
segment's end 288) the intervals [80,120) and [117,157) overlap and the event at
time 118 (id 9 of a schedule starting at 28) is delivered twice -/
example : ((runEvents { exSched with start := 28, count := 0 } 240 [⟨192, 96⟩, ⟨283, 96⟩]).map (·.id)).count 9 = 2 := by
  decide +kernel

/-- D13c: before fix a993bc6 (no count check at the head of the loop) the segment
[30, 40) of a 3-event schedule (times 0, 10, 20) carried an unscheduled event with
id 3; the repaired function carries nothing. -/
example : createEmsg { exSched with start := 0, count := 3 } 100 ⟨30, 10⟩ = .ok [] := by decide +kernel

/-- D13k: a segment spanning more than 10000 intervals is refused (fix 8c4223f) although
only one scheduled event (id 0 at time 25) lies in it -/
example : createEmsg { exSched with interval := 1, count := 1, timescale := 10 ^ 7 } 240 ⟨0, 96⟩ = .valueError := by
  decide +kernel
example : (scheduled { exSched with interval := 1, count := 1, timescale := 10 ^ 7 } 0 4000000).map (·.id) = [0] := by
  decide +kernel

/-- D13b: `interval = 0` is refused … -/
example : createEmsg { exSched with interval := 0 } 240 ⟨0, 96⟩ = .valueError := by decide +kernel
/-- … because the unguarded loop exhausts any fuel (`emsgLoop_diverges_interval_zero`) -/
example : emsgLoop { exSched with interval := 0, count := 0 } 0 40 1000 0 25 = none :=
  emsgLoop_diverges_interval_zero _ rfl (by decide) 0 40 25 (by decide) (by decide) 1000 0

/-- **emsg v0 / v1 round trip**: parsing the encoded box gives the box back
(every field inside its width – `EmsgBox.wf`) -/
theorem emsg_box_roundtrip (b : EmsgBox) (h : b.wf) : parseEmsg (encodeEmsg b) = some b := by
  obtain ⟨hv, hf, hs, hval, hts, ht0, ht1, hd, hid, hsz⟩ := h
  have hv1 : beNat [UInt8.ofNat b.version] = b.version := by rcases hv with h | h <;> rw [h] <;> rfl
  unfold parseEmsg encodeEmsg
  dsimp only
  rw [List.append_assoc]
  -- one step per statement of `parseEmsg`; the `simp only` that closes a version is `beNat_beBytes` on each field
  refine bind_of_eq_some (takeN_beBytes ..) <| bind_of_eq_some (takeN_append _ _ 4 rfl) <|
    ite_of_neg (fun h => h rfl) <| ite_of_neg (fun h => h (beNat_beBytes 4 _ hsz)) ?_
  obtain ⟨version, flags, scheme, value, timescale, time, duration, id, data⟩ := b
  dsimp only at hv hf hs hval hts ht0 ht1 hd hid hv1
  rcases hv with rfl | rfl
  · simp only [encodeEmsgPayload, if_true, ↓List.append_assoc]
    refine bind_of_eq_some (takeN_append _ _ 1 rfl) <| bind_of_eq_some (takeN_beBytes ..) <|
      ite_of_pos hv1 <| bind_of_eq_some (readCStr_append _ _ hs) <| bind_of_eq_some (readCStr_append _ _ hval) <|
      bind_of_eq_some (takeN_beBytes ..) <| bind_of_eq_some (takeN_beBytes ..) <|
      bind_of_eq_some (takeN_beBytes ..) <| bind_of_eq_some (takeN_beBytes ..) ?_
    simp only [hv1, beNat_beBytes _ _ hf, beNat_beBytes _ _ hts, beNat_beBytes _ _ (ht0 rfl), beNat_beBytes _ _ hd,
      beNat_beBytes _ _ hid]
  · simp only [encodeEmsgPayload, show ¬ (1 : Nat) = 0 by decide, if_false, ↓List.append_assoc]
    refine bind_of_eq_some (takeN_append _ _ 1 rfl) <| bind_of_eq_some (takeN_beBytes ..) <|
      ite_of_neg (by rw [hv1]; decide) <| ite_of_pos hv1 <|
      bind_of_eq_some (takeN_beBytes ..) <| bind_of_eq_some (takeN_beBytes ..) <|
      bind_of_eq_some (takeN_beBytes ..) <| bind_of_eq_some (takeN_beBytes ..) <|
      bind_of_eq_some (readCStr_append _ _ hs) <| bind_of_eq_some (readCStr_append _ _ hval) ?_
    simp only [hv1, beNat_beBytes _ _ hf, beNat_beBytes _ _ hts, beNat_beBytes _ _ (ht1 rfl), beNat_beBytes _ _ hd,
      beNat_beBytes _ _ hid]

example : EmsgBox.wf ⟨1, 0, [0x75, 0x72, 0x6e], [0x30], 100, 2 ^ 40, 200, 7, [1, 2, 3]⟩ := by
  refine ⟨Or.inr rfl, by decide, by decide, by decide, by decide, by decide, by decide, by decide,
    by decide, by decide⟩

end DashLive.Events

namespace DashLive.Crc32
open DashLive.Bits

/-- **CRC residue**: for every message `m`, the CRC-32/MPEG-2 of `m` followed by
its own CRC (32 bits, MSB first) is 0 – this is what `crc_valid` tests.
(Shift-register invariant `run_self`, plain induction.) -/
theorem crc_residue (m : Bits) : crc32 (m ++ crcBits m) = 0 := by
  unfold crc32 crcBits
  rw [run_residue, bitsToNat_replicate_false]

theorem crc_width (m : Bits) : (crcBits m).length = 32 :=
  run_length _ _ (by simp [init])

/-- the CRC field with its spine written out: an evaluation that only runs through the 32 bits
need not compute them -/
theorem crcBits_spine (msg : Bits) : crcBits msg = (List.range 32).map ((crcBits msg).getD · false) := by
  apply List.ext_getElem
  · simp [crc_width]
  · intro i h1 _; simp [List.getElem?_eq_getElem h1]

/-- a corrupted CRC is detected: the check value of "123456789" is 0x0376E6E7 and
flipping its last bit gives a non-zero residue -/
example : crc32 (putBytes [0x31, 0x32, 0x33, 0x34, 0x35, 0x36, 0x37, 0x38, 0x39]) = 0x0376E6E7 := by decide +kernel
example : crc32 (putBytes [0x31, 0x32, 0x33, 0x34, 0x35, 0x36, 0x37, 0x38, 0x39, 0x03, 0x76, 0xE6, 0xE6]) ≠ 0 := by
  decide +kernel

end DashLive.Crc32

namespace DashLive.Scte35
open DashLive.Bits DashLive.Events

/-- **SCTE-35 round trip.** For every well-formed signal (all header fields,
`splice_null` / `time_signal` / `splice_insert` in program, component and cancelled
form, any list of avail / segmentation / time descriptors, every value inside its
bit width): parsing the encoding returns the signal itself, `section_length`,
`splice_command_length`, `descriptor_loop_length` and every `descriptor_length`
equal to the encoded byte counts, and `crc_valid = True`. -/
theorem scte35_roundtrip (s : Signal) (h : s.wf = true) :
    Signal.parse s.encode = some
      { sig := s, sectionLength := s.sectionLength, spliceCommandLength := s.command.bytes,
        spliceCommandType := s.command.type, descriptorLoopLength := s.loopBytes,
        descriptorLengths := s.descriptors.map (fun d => 4 + d.bodyBytes),
        crc := Crc32.crc32 s.encBody, crcValid := true } := by
  have hrd := (Signal.parseRd_flat s h _ (Crc32.crc_width s.bodyFlat)).run
  unfold Signal.parse Signal.encode
  rw [Signal.encBody_eq, hrd]
  simp only [Option.map_some, List.take_length, Crc32.crc_residue, beq_self_eq_true]
  rfl

/-- **the length fields are the encoded lengths**: the section is
`3 + section_length` bytes, the command `splice_command_length` bytes, the
descriptor loop `descriptor_loop_length` bytes and descriptor `d` is
`2 + descriptor_length` bytes (and the encoding is a whole number of bytes) -/
theorem scte35_lengths (s : Signal) :
    s.encode.length = 8 * (3 + s.sectionLength) ∧
    s.command.enc.length = 8 * s.command.bytes ∧
    (s.descriptors.flatMap Descriptor.flat).length = 8 * s.loopBytes ∧
    ∀ d ∈ s.descriptors, d.flat.length = 8 * (2 + (4 + d.bodyBytes)) := by
  refine ⟨?_, s.command.enc_length, s.loop_length, fun d _ => ?_⟩
  · unfold Signal.encode
    simp only [Signal.encBody_eq, List.length_append, Crc32.crc_width, s.bodyFlat_length]
    unfold Signal.sectionLength; omega
  · rw [d.flat_length]; omega

/-- **the SCTE-35 payload of a scheduled event decodes to the schedule**: whenever
`create_binary_signal(event_id, presentation_time)` can be encoded, parsing the
bytes gives a valid CRC and a `splice_insert` whose `splice_event_id` is the event
id, whose PTS is `presentation_time · 90000 // timescale` reduced to 33 bits, and
whose break duration is `duration · 90000 // timescale` with `auto_return` on even
ids. -/
theorem scte35_matches_schedule (s : Sched) (programId eventId pt : Int) (data : Bits)
    (h : scte35Payload s programId eventId pt = some data) :
    ∃ p si, Signal.parse data = some p ∧ p.crcValid = true ∧ p.sig.command = .insert si ∧
      (si.eventId : Int) = eventId ∧
      si.spliceTime = some ⟨some (schedPts s pt)⟩ ∧
      si.breakDuration = some ⟨Int.fmod eventId 2 == 0, schedBreak s⟩ := by
  obtain ⟨sig, hc, rfl⟩ := Option.map_eq_some_iff.mp h
  obtain ⟨hwf, h0, si, hcmd, hid, hst, hbd⟩ := createBinarySignal_spec s programId eventId pt sig hc
  refine ⟨_, si, scte35_roundtrip sig hwf, rfl, hcmd, ?_, hst, hbd⟩
  rw [hid]; omega

/-- the PTS is the schedule's instant in 90 kHz ticks, modulo 2³³ -/
theorem schedPts_eq (s : Sched) (pt : Int) (hts : 0 < s.timescale) :
    (schedPts s pt : Int) = (pt * 90000 / s.timescale) % 2 ^ 33 := by
  rw [schedPts_cast, pydiv_pos _ hts]

/-- there is a payload whenever every derived value fits its field (sufficient, not necessary: `hc`) -/
theorem scte35_payload_exists (s : Sched) (programId eventId pt : Int)
    (hts : s.timescale ≠ 0) (hid : 0 ≤ eventId ∧ eventId < 2 ^ 32)
    (hd : 0 ≤ pydiv (s.duration * 90000) s.timescale ∧ pydiv (s.duration * 90000) s.timescale < 2 ^ 33)
    (hp : 0 ≤ programId ∧ programId < 2 ^ 16) (hc : s.count > 0 → eventId < s.count) :
    (scte35Payload s programId eventId pt).isSome = true := by
  have hav : ¬ ((if s.count > 0 ∧ pydiv s.count 2 < 255 then 1 + pydiv eventId 2 else (0 : Int)) ≥ 256) := by
    split
    · rename_i hn
      have := hc hn.1
      have h2 : pydiv eventId 2 = eventId / 2 := pydiv_pos _ (by decide)
      have h3 : pydiv s.count 2 = s.count / 2 := pydiv_pos _ (by decide)
      omega
    · decide
  simp only [scte35Payload, createBinarySignal, Option.isSome_map]
  generalize (if s.count > 0 ∧ pydiv s.count 2 < 255 then 1 + pydiv eventId 2 else (0 : Int)) = an at hav ⊢
  rw [if_neg (by omega)]
  rfl

/-- a signal using most of the modelled syntax -/
def exSignal : Signal :=
  { tableId := 0xFC, sectionSyntaxIndicator := false, privateIndicator := true, sapType := 3,
    protocolVersion := 0, encryptedPacket := false, encryptionAlgorithm := 0, ptsAdjustment := 2 ^ 33 - 1,
    cwIndex := 0, tier := 0xFFF,
    command := .insert { eventId := 2 ^ 32 - 1, cancel := false, outOfNetwork := true, immediate := false,
                         spliceTime := none, components := [⟨1, ⟨some 5⟩⟩, ⟨255, ⟨none⟩⟩],
                         breakDuration := some ⟨true, 2 ^ 33 - 1⟩, uniqueProgramId := 65535, availNum := 255,
                         availsExpected := 0 },
    descriptors := [.avail 0x43554549 309,
                    .segmentation 0x43554549
                      { eventId := 7, cancel := false, deliveryNotRestricted := false,
                        webDeliveryAllowed := false, noRegionalBlackout := true, archiveAllowed := true,
                        deviceRestrictions := 2, duration := some (2 ^ 40 - 1), upidType := 8,
                        upid := [1, 2, 3, 4, 5, 6, 7, 8], typeId := 0x36, segmentNum := 0,
                        segmentsExpected := 0, subSegmentNum := 3, subSegmentsExpected := 4 },
                    .time 1 2 3 4] }

example : exSignal.wf = true := by decide +kernel
example : (createBinarySignal exSched 1620 3 55).isSome = true := by decide +kernel

/-- excluded: a program splice that is *immediate* – the encoder drops the
`splice_time`, so parsing cannot give the object back (D13i) -/
def exImmediate : Signal :=
  { exSignal with
    command := .insert { eventId := 7, cancel := false, outOfNetwork := true, immediate := true,
                         spliceTime := some ⟨some 5⟩, components := [], breakDuration := none,
                         uniqueProgramId := 0, availNum := 0, availsExpected := 0 },
    descriptors := [] }

example : exImmediate.wf = false ∧ (Signal.parse exImmediate.encode).map (·.sig) ≠ some exImmediate := by
  refine ⟨by decide +kernel, ?_⟩
  -- the signal that comes back does not depend on the CRC bits, only on their number
  simp only [Signal.parse, Signal.encode]
  rw [Crc32.crcBits_spine]
  decide +kernel

/-- excluded: `encrypted_packet = 1` – the encoder writes no `E_CRC_32`, the
parser expects one and runs out of bits (D13i) -/
def exEncrypted : Signal := { exSignal with encryptedPacket := true, descriptors := [] }

example : exEncrypted.wf = false ∧ Signal.parse exEncrypted.encode = none := by
  refine ⟨by decide +kernel, ?_⟩
  -- whatever the 32 CRC bits are, the parser wants 32 more
  simp only [Signal.parse, Signal.encode]
  rw [Crc32.crcBits_spine]
  decide +kernel

end DashLive.Scte35
