import DashLive.Lemmas.Validator
import DashLive.Props.C02
import DashLive.Props.C08
/-!
# C18 – the bundled validator accepts what the server generates and flags corruptions

Model: `Model/Validator.lean` (the validator's decision logic after the `fix:` commits 3c714d3,
0554b9e, 1951de2, c08f3f9, b7314e3, a2de2ac); server side: the models of C02 and C08.

*Acceptance* (`validator_accepts_*`): what the server models produce yields an empty error list.
The hypotheses name exactly what the validator needs from a stream beyond what C02/C08 prove
for every stream:
* `$Time$` addressing – consecutive timeline positions get consecutive `mfhd` numbers
  (`hcons`; the server numbers `$Time$` requests `t / segment_duration + start_number`) and the
  loop drift is within one second (`hdrift`; the validator's duration check has `delta =
  timescale`, media_segment.py:223-228);
* `$Number$` addressing – consecutive numbers select consecutive positions whose start lies
  within half a template duration of `(N − startNumber)·duration` (`hhalf`; this is the
  half-segment bound of `C02_number_bounds` for regular layouts, see
  `half_segment_of_C02`), and the drift at a loop boundary is within the decode-time tolerance
  (`hcont`).
Irregular layouts falsify them: the `example`s at the end `decide` a rejected pristine stream
(ledger entry `time-seqnum-irregular`).

*Detection* (`validator_detects_*`): for each corruption of the catalogue the error list is
non-empty and contains the error naming the corrupted element.  A media-segment detection is a
component iff (`timing_errors_iff`, `trun_errors_iff`, `saioOffset_mem_checkSaio_iff`) put into
`validateSegment_of_reaches` / `validateSegment_ne_nil_of_mem` (Lemmas/Validator).

The file also holds the vocabulary of its statements (`ParseReaches`, `timeExp`, `numberExp`,
`ServerShaped`) and, beside the component iffs, the general lemma of each other part: the
manifest tree (`mem_append_flatMap_zipIdx`, `docErrors_of_mpd`), the init segment
(`initErrors_of_loaded`), refreshes (`refreshErrors_independent` / `refreshErrors_eq_nil_iff`),
the session report (`mem_final_foldl`), availability (`availDecision_fetch_iff`).
-/
namespace DashLive.Validator
open DashLive.Segments

/-- the expectation is an `Option`: **`some 0` is an expectation like any other** (the first
media segment of every static presentation is expected at decode time 0; a template may start
at number 0) and the three timing comparisons are switched off by `none` **only**
(media_segment.py:159, 163 test `is not None`): each error is present iff its expectation is
`some v` with `v` off by more than the tolerance – for every `v`, zero, positive or negative -/
theorem timing_errors_iff (c : RepCtx) (e : SegExp) (o : SegObs) :
    (SegErr.seqNum ∈ seqErrs e o ↔ ∃ n, e.expSeq = some n ∧ n ≠ (o.seq : Int)) ∧
    (SegErr.decodeTime ∈ decodeErrs e o ↔
      ∃ t, e.expDecode = some t ∧ ((e.tol : Int) < t - o.tfdt ∨ (e.tol : Int) < (o.tfdt : Int) - t)) ∧
    (SegErr.duration ∈ durErrs c e o ↔
      ∃ d : Nat, e.expDur = some d ∧ ((c.dashTs : Int) < (d : Int) - (obsDuration c o : Int) ∨
        (c.dashTs : Int) < (obsDuration c o : Int) - (d : Int))) := by
  refine ⟨?_, ?_, ?_⟩
  · cases h : e.expSeq <;> simp [seqErrs, h]
  · cases h : e.expDecode <;> simp [decodeErrs, h, almostEqual_false_iff]
  · cases h : e.expDur <;> simp [durErrs, h, almostEqual_false_iff]

/-- **wrong decode time beyond the tolerance**: reported whenever the response is usable
(status, boxes); an unusable response is reported anyway -/
theorem validator_detects_decode_time (c : RepCtx) (e : SegExp) (o : SegObs) (t : Int)
    (ht : e.expDecode = some t)
    (hbad : (e.tol : Int) < t - o.tfdt ∨ (e.tol : Int) < (o.tfdt : Int) - t) :
    validateSegment c e o ≠ [] ∧ (Reaches c o → SegErr.decodeTime ∈ validateSegment c e o) :=
  have h := (timing_errors_iff c e o).2.1.mpr ⟨t, ht, hbad⟩
  ⟨validateSegment_ne_nil_of_mem .decodeTime (by simp [h]), fun hr => by simp [validateSegment_of_reaches hr, h]⟩

/-- **wrong sequence number** -/
theorem validator_detects_sequence_number (c : RepCtx) (e : SegExp) (o : SegObs) (n : Int)
    (hn : e.expSeq = some n) (hbad : n ≠ (o.seq : Int)) :
    validateSegment c e o ≠ [] ∧ (Reaches c o → SegErr.seqNum ∈ validateSegment c e o) :=
  have h := (timing_errors_iff c e o).1.mpr ⟨n, hn, hbad⟩
  ⟨validateSegment_ne_nil_of_mem .seqNum (by simp [h]), fun hr => by simp [validateSegment_of_reaches hr, h]⟩

/-- an expectation of 0 is compared like any other (a truthiness test would skip it) -/
theorem validator_detects_at_zero_expectation (c : RepCtx) (e : SegExp) (o : SegObs) (hr : Reaches c o) :
    (e.expDecode = some 0 → e.tol < o.tfdt → SegErr.decodeTime ∈ validateSegment c e o) ∧
    (e.expSeq = some 0 → o.seq ≠ 0 → SegErr.seqNum ∈ validateSegment c e o) :=
  ⟨fun h0 hb => (validator_detects_decode_time c e o 0 h0 (Or.inr (by omega))).2 hr,
   fun h0 hb => (validator_detects_sequence_number c e o 0 h0 (by omega)).2 hr⟩

/-- `parse_data` gets as far as the trun/mdat comparison -/
def ParseReaches (c : RepCtx) (o : SegObs) : Prop :=
  o.status = wantStatus c ∧ (c.infoEncrypted = true → c.ivKnown = true) ∧
    o.hasMoof = true ∧ o.hasMdat = true

theorem parseReaches_reaches {c : RepCtx} {o : SegObs} : ParseReaches c o → Reaches c o :=
  fun ⟨hst, hiv, hmoof, hmdat⟩ => ⟨hst, by rw [parseData_of_reaches hiv hmoof hmdat]⟩

/-- the trun/mdat comparison is stated with the mdat's **own** header size – 8 bytes for the
compact form, 16 for the 64-bit `largesize` form the server keeps when the stored file uses it
(media_segment.py:290-293: `mdat.position + mdat.header_size`): for every header size `o.mdatHdr`
the two errors are present exactly when the first sample is not the first payload byte /
the last sample ends behind the box -/
theorem trun_errors_iff (c : RepCtx) (o : SegObs) (hr : ParseReaches c o) :
    (SegErr.trunFirst ∈ (parseData c o).1 ↔
      o.baseDataOffset + o.dataOffset ≠ ((o.mdatPos + o.mdatHdr : Nat) : Int)) ∧
    (SegErr.trunLast ∈ (parseData c o).1 ↔
      ((o.mdatPos + o.mdatSize : Nat) : Int)
        < o.baseDataOffset + o.dataOffset + (sumSizes o.samples : Int)) := by
  obtain ⟨_, hiv, hmoof, hmdat⟩ := hr
  rw [parseData_of_reaches hiv hmoof hmdat]
  cases c.video <;> simp [Int.not_le]

/-- **trun data_offset not pointing at the mdat payload** (any offset ≠ payload start) -/
theorem validator_detects_trun_offset (c : RepCtx) (e : SegExp) (o : SegObs)
    (hr : ParseReaches c o)
    (hbad : o.baseDataOffset + o.dataOffset ≠ ((o.mdatPos + o.mdatHdr : Nat) : Int)) :
    SegErr.trunFirst ∈ validateSegment c e o :=
  by simp [validateSegment_of_reaches (parseReaches_reaches hr), (trun_errors_iff c o hr).1.mpr hbad]

/-- **trun samples running past the end of the mdat** -/
theorem validator_detects_trun_beyond_mdat (c : RepCtx) (e : SegExp) (o : SegObs)
    (hr : ParseReaches c o)
    (hbad : ((o.mdatPos + o.mdatSize : Nat) : Int)
              < o.baseDataOffset + o.dataOffset + (sumSizes o.samples : Int)) :
    SegErr.trunLast ∈ validateSegment c e o :=
  by simp [validateSegment_of_reaches (parseReaches_reaches hr), (trun_errors_iff c o hr).2.mpr hbad]

/-- the saio rule for **every** base (moof position or explicit tfhd offset) and offset list: the
error is present iff `senc position + offset of its first entry ≠ first saio offset + base` -/
theorem saioOffset_mem_checkSaio_iff {o : SegObs} {p f n : Nat} {offs : List Nat}
    (hsenc : o.senc = some (p, f, n)) (hsaio : o.saio = some offs) :
    SegErr.saioOffset ∈ checkSaio o ↔ ((p + f : Nat) : Int) ≠ (offs.headD 0 : Int) + o.baseDataOffset := by
  simp [checkSaio, hsenc, hsaio]

/-- the saio rule with one offset entry, as the server writes it -/
theorem saio_offset_iff (o : SegObs) (p f n x : Nat) (hsenc : o.senc = some (p, f, n)) (hsaio : o.saio = some [x]) :
    SegErr.saioOffset ∈ checkSaio o ↔ ((p + f : Nat) : Int) ≠ (x : Int) + o.baseDataOffset :=
  saioOffset_mem_checkSaio_iff hsenc hsaio

/-- **wrong saio offset** in an encrypted Representation -/
theorem validator_detects_saio_offset (c : RepCtx) (e : SegExp) (o : SegObs)
    (hr : Reaches c o) (henc : c.infoEncrypted = true)
    (p f n : Nat) (offs : List Nat) (hsenc : o.senc = some (p, f, n)) (hsaio : o.saio = some offs)
    (hbad : ((p + f : Nat) : Int) ≠ (offs.headD 0 : Int) + o.baseDataOffset) :
    SegErr.saioOffset ∈ validateSegment c e o :=
  by simp [validateSegment_of_reaches hr, encErrs, henc, (saioOffset_mem_checkSaio_iff hsenc hsaio).mpr hbad]

/-- what the validator expects of a `$Time$` SegmentTimeline entry `(t, d)`
(`genTimeline`, representation.py:293-309, `@presentationTimeOffset` 0) -/
def timeExp (tol : Nat) (p : Int × Int) : SegExp :=
  { expSeq := none, expDecode := some p.1, expDur := some p.2.toNat, tol := tol, pto := 0 }

theorem genTimeline_live_time (audio : Bool) (sn : Int) (segDur : Int) (ts fn fd : Nat)
    (need : Option Int) (entries : List (Int × Int)) :
    (genTimeline true audio false 0 sn segDur ts fn fd need entries).map (·.2)
      = entries.map (timeExp (if audio then ts / 20 else frameTolerance ts fn fd)) := by
  unfold genTimeline
  suffices h : ∀ (idx : Nat) (total : Int),
      (genTimeline.go true false 0 sn segDur need
        (if audio then ts / 20 else frameTolerance ts fn fd) idx total entries).map (·.2)
      = entries.map (timeExp (if audio then ts / 20 else frameTolerance ts fn fd)) from h 0 0
  induction entries with
  | nil => intro idx total; rfl
  | cons x rest ih => intro idx total; simp [genTimeline.go, timeExp, ih]

/-- **`$Time$` addressing is accepted.**  The timeline is any slice `[g₀, g₀+k)` of the global
sequence (`timeline_is_slice`: that is what the server advertises); for each entry the served
segment carries the decode time of `C02_time_tfdt_exact`, the number `t / sd + sn` the handler
writes (`liveIndex`), and its stored sample durations.  Then no segment of the pass gains an
error. -/
theorem validator_accepts_time_addressing_partial
    (durs : List Nat) (R sd sn g0 k : Nat) (c : RepCtx) (tol : Nat) (obs : Nat → SegObs)
    (hn : 0 < durs.length) (h1 : StartsInsideLoop durs R) (h2 : PositiveDurs durs)
    (hsound : ∀ i, i < k → Sound c 0 (obs i))
    (htfdt : ∀ i, i < k → (obs i).tfdt =
      servedTfdt durs (some fun j => 0 + prefixSum durs j)
        (getSegmentIndex durs R (startG durs R (g0 + i))).1
        (getSegmentIndex durs R (startG durs R (g0 + i))).2.2)
    (hseq : ∀ i, i < k → (obs i).seq = startG durs R (g0 + i) / sd + sn)
    (hdur : ∀ i, i < k → sumDurs (obs i).samples = durG durs (g0 + i))
    (hcons : ∀ i, i + 1 < k →
      startG durs R (g0 + i + 1) / sd = startG durs R (g0 + i) / sd + 1)
    (hdrift : ((R : Int) - (durs.sum : Int)).natAbs ≤ c.dashTs) :
    located (repPass c none
      (fetchAll ((sliceG durs R g0 k).map (timeExp tol)) ((List.range k).map obs))) = [] := by
  have hstep : ∀ j, j < k → ∀ ch : Chain, (∀ n, ch.nextSeq = some n → n = ((obs j).seq : Int)) →
      (stepSeg c ch (SegState.fresh (timeExp tol ((startG durs R (g0 + j) : Int), durG' durs R (g0 + j))))
        (Outcome.fetched (obs j))).2.1 = [] := by
    intro j hj ch hch
    have htf : ((obs j).tfdt : Int) = (startG durs R (g0 + j) : Int) := by
      rw [htfdt j hj, C02_time_tfdt_exact durs R (g0 + j) hn h1 h2]
    exact stepSeg_clean_of_decode (hsound j hj) ch rfl rfl rfl hch (by rw [htf]; exact almostEqual_self _ _)
      (by rw [hdur j hj]; exact almostEqual_durG' durs R _ _ hdrift)
  rw [sliceG_eq_map, List.map_map]
  refine repLoop_fetchAll_clean c 0 k _ obs hsound (fun hk => hstep 0 hk _ (fun n h => nomatch h))
    (fun i hi tot => hstep (i + 1) hi _ fun n hn => ?_)
  -- the predecessor hands on its number + 1: `hcons`
  cases hn
  rw [hseq i (by omega), hseq (i + 1) hi, ← Nat.add_assoc, hcons i hi]
  push_cast; omega

/-- `hcons` holds for uniform layouts (every stored segment `sd` ticks, reference = the track) -/
theorem uniform_consecutive (n sd g : Nat) (hn : 0 < n) (hsd : 0 < sd) :
    startG (List.replicate n sd) (n * sd) g / sd = g := by
  unfold startG prefixSum
  simp only [List.length_replicate, List.take_replicate, List.sum_replicate_nat]
  have hm := Nat.mod_lt g hn
  rw [Nat.min_eq_left (by omega)]
  have : g / n * (n * sd) + g % n * sd = (n * (g / n) + g % n) * sd := by
    rw [Nat.add_mul, Nat.mul_comm (g / n) (n * sd), Nat.mul_assoc, Nat.mul_comm sd (g / n), ← Nat.mul_assoc]
  rw [this, Nat.div_add_mod, Nat.mul_div_cancel _ hsd]

/-- what the validator expects of the `i`-th segment of a `$Number$` template
(`genTemplate`, representation.py:241-268) -/
def numberExp (sd : Nat) (tolOf : Nat → Nat) (N0 : Int) (i : Nat) : SegExp :=
  { expSeq := some (N0 + i), expDecode := none, expDur := some sd, tol := tolOf i, pto := 0 }

theorem genTemplate_eq (audio : Bool) (ts fn fd sd : Nat) (N0 : Int) (n : Nat) :
    genTemplate audio ts fn fd sd 0 N0 n
      = (List.range n).map (numberExp sd (templateTolerance audio ts fn fd) N0) := rfl

/-- **`$Number$` addressing is accepted.**  Requests `N₀ … N₀+k−1` are answered with
`mfhd = N` (`C02_number_seqnum`) and with the segments at positions `g₀ … g₀+k−1`
(`getSegmentIndex` of `(N − sn)·sd`, decode time = start of the position).  The validator's
continuity check uses `delta = expected_duration // 2` against the half-segment bound of
`C02_number_bounds` (`hhalf`) and its decode-time tolerance against the loop drift (`hcont`). -/
theorem validator_accepts_number_addressing_partial
    (durs : List Nat) (R sd g0 k : Nat) (sn N0 : Int) (c : RepCtx) (tolOf : Nat → Nat)
    (obs : Nat → SegObs)
    (hsn : c.startNumber = sn) (htd : c.tmplDuration = some sd)
    (hsound : ∀ i, i < k → Sound c 0 (obs i))
    (hseq : ∀ i, i < k → ((obs i).seq : Int) = N0 + i)
    (htfdt : ∀ i, i < k → (obs i).tfdt = startG durs R (g0 + i))
    (hdur : ∀ i, i < k → sumDurs (obs i).samples = durG durs (g0 + i))
    (hsegdur : ∀ i, i < k → almostEqual (sd : Int) (durG durs (g0 + i)) c.dashTs = true)
    (hhalf : ∀ i, i + 1 < k →
      almostEqual ((N0 + (i + 1 : Nat) - sn) * sd)
        ((startG durs R (g0 + i) : Int) + (durG durs (g0 + i) : Int)) (sd / 2) = true)
    (hcont : ∀ i, i + 1 < k →
      almostEqual ((startG durs R (g0 + i) : Int) + (durG durs (g0 + i) : Int))
        (startG durs R (g0 + i + 1) : Int) (tolOf (i + 1)) = true) :
    located (repPass c none
      (fetchAll ((List.range k).map (numberExp sd tolOf N0)) ((List.range k).map obs))) = [] := by
  have hstep : ∀ j, j < k → ∀ ch : Chain,
      (∀ nd, ch.nextSeq = some (N0 + (j : Int)) → ch.nextDecode = some nd →
        almostEqual ((N0 + (j : Int) - c.startNumber) * sd) nd (sd / 2) = true ∧
        almostEqual nd (obs j).tfdt (tolOf j) = true) →
      (stepSeg c ch (SegState.fresh (numberExp sd tolOf N0 j)) (Outcome.fetched (obs j))).2.1 = [] :=
    fun j hj ch hch => stepSeg_clean_of_number (hsound j hj) ch rfl rfl rfl (hseq j hj) htd hch
      (by rw [hdur j hj]; exact hsegdur j hj)
  refine repLoop_fetchAll_clean c 0 k _ obs hsound (fun hk => hstep 0 hk _ (fun nd h => nomatch h))
    (fun i hi tot => hstep (i + 1) hi _ fun nd _ hnd => ?_)
  -- the predecessor hands on the end of position `g₀ + i`: `hhalf`, `hcont`
  cases hnd
  rw [htfdt i (by omega), hdur i (by omega), htfdt (i + 1) hi, hsn, ← Nat.add_assoc]
  exact ⟨hhalf i hi, hcont i hi⟩

/-- the continuity hypothesis `hcont` inside a loop: consecutive positions of one loop are
exactly contiguous (`startG_succ_of_lt`: no drift term), so the difference is 0 -/
theorem continuity_within_loop (durs : List Nat) (R g tol : Nat)
    (h : g % durs.length + 1 < durs.length) :
    almostEqual ((startG durs R g : Int) + (durG durs g : Int)) (startG durs R (g + 1) : Int) tol = true := by
  rw [startG_succ_of_lt R g h, almostEqual_iff]
  omega

/-- … and across a loop boundary it is the drift `R − Σ durs`, which therefore has to be
within the validator's decode-time tolerance -/
theorem continuity_at_boundary (durs : List Nat) (R g tol : Nat) (hn : 0 < durs.length)
    (h : g % durs.length + 1 = durs.length) (hdrift : ((R : Int) - (durs.sum : Int)).natAbs ≤ tol) :
    almostEqual ((startG durs R g : Int) + (durG durs g : Int)) (startG durs R (g + 1) : Int) tol = true := by
  rw [startG_succ durs R g hn, almostEqual_iff, durG', if_pos h]
  omega

/-- the half-segment hypothesis `hhalf` from `C02_number_bounds` for a layout whose segments
all last `sd` ticks: the position selected for timecode `tc` starts within `sd / 2` of `tc`
(inside a loop) -/
theorem half_segment_of_C02 (durs : List Nat) (R tc sd : Nat) (hR : 0 < R) (hn : 0 < durs.length)
    (huni : ∀ m, m < durs.length → durAt durs m = sd)
    (hin : index durs R tc % durs.length ≠ 0) :
    almostEqual (tc : Int) (startG durs R (index durs R tc) : Int) (sd / 2) = true := by
  obtain ⟨b1, b2, _⟩ := C02_number_bounds durs R tc hR hn
  have b2' := b2 hin
  have hd : durG durs (index durs R tc) = sd := huni _ (Nat.mod_lt _ hn)
  have hd' : durG durs (index durs R tc - 1) = sd := huni _ (Nat.mod_lt _ hn)
  rw [hd] at b1
  rw [hd'] at b2'
  rw [almostEqual_iff]
  omega

/-- **a gap in a `$Time$` SegmentTimeline**: after the segment at position `g − 1` the timeline
continues with the entry of position `g + 1`.  The served segment carries the number of
position `g + 1`, the validator expects the predecessor's number + 1 – the error is recorded on
the segment after the gap. -/
theorem validator_detects_timeline_gap (c : RepCtx) (ch : Chain) (tol du : Nat) (t : Int)
    (o : SegObs) (prevSeq : Nat) (hr : Reaches c o)
    (hch : ch.nextSeq = some ((prevSeq : Int) + 1))
    (hgap : (o.seq : Int) ≠ (prevSeq : Int) + 1) :
    let e : SegExp := { expSeq := none, expDecode := some t, expDur := some du, tol := tol, pto := 0 }
    SegErr.seqNum ∈ (stepSeg c ch (SegState.fresh e) (Outcome.fetched o)).2.1 := by
  intro e
  rw [stepSeg_fetched_errs, inherit_of_decode c ch (e := e) rfl rfl]
  exact List.mem_append_right _
    ((validator_detects_sequence_number c { e with expSeq := ch.nextSeq } o _ hch (Ne.symm hgap)).2 hr)

/-- with consecutive numbering of the pristine stream a removed entry is always such a gap -/
theorem gap_breaks_numbering (s0 s1 s2 : Nat) (h01 : s1 = s0 + 1) (h12 : s2 = s1 + 1) :
    (s2 : Int) ≠ (s0 : Int) + 1 := by omega

/-- **wrong decode time in `$Number$` addressing** (no expected decode time of its own): the
successor inherits `tfdt + duration` of the corrupted segment as its expectation
(representation.py:550) and fails its own decode-time check. -/
theorem validator_detects_decode_time_at_successor (c : RepCtx) (ch : Chain) (tol sd : Nat)
    (N nd : Int) (o : SegObs) (hr : Reaches c o)
    (hch : ch.nextSeq = some N) (hnd : ch.nextDecode = some nd)
    (hbad : (tol : Int) < nd - o.tfdt ∨ (tol : Int) < (o.tfdt : Int) - nd) :
    let e : SegExp := { expSeq := some N, expDecode := none, expDur := some sd, tol := tol, pto := 0 }
    SegErr.decodeTime ∈ (stepSeg c ch (SegState.fresh e) (Outcome.fetched o)).2.1 := by
  intro e
  rw [stepSeg_fetched_errs, inherit_of_number_chained c (e := e) rfl rfl rfl hch hnd]
  exact List.mem_append_right _
    ((validator_detects_decode_time c { e with expDecode := some nd } o nd rfl hbad).2 hr)

/-- errors of a step of a pass surface in the result of the pass (when the loop gets there:
no `need_duration`); `pre` are the segments before it -/
theorem repLoop_of_step (c : RepCtx) :
    ∀ (pre : List (SegState × Outcome)) (ch : Chain) (s : SegState) (oc : Outcome)
      (post : List (SegState × Outcome)) (err : SegErr),
      err ∈ (stepSeg c ((pre.foldl (fun acc p => (stepSeg c acc p.1 p.2).2.2) ch)) s oc).2.1 →
      ∃ q ∈ repLoop c none ch (pre ++ (s, oc) :: post), err ∈ q.2 := by
  intro pre
  induction pre with
  | nil =>
    intro ch s oc post err herr
    exact ⟨((stepSeg c ch s oc).1, (stepSeg c ch s oc).2.1), by simp [repLoop], herr⟩
  | cons y pre' ih =>
    intro ch s oc post err herr
    obtain ⟨q, hq, he⟩ := ih _ s oc post err herr
    exact ⟨q, by simp [repLoop, hq], he⟩

theorem initErrors_of_loaded {o : InitObs} (hload : (initLoad o).2 = true) (htop : 1 < o.top.length) :
    initErrors o = (if o.top.head? = some "ftyp" then [] else [.ftyp]) ++ mandatoryErrors o.moov := by
  simp [initErrors, hload, initValidateLoaded, htop]

/-- **a mandatory box of the moov removed** (any box of `mandatoryMoovBoxes`, with all its
alternatives absent): the init segment is reported, with the error naming the box -/
theorem validator_detects_init_box (o : InitObs) (i : Nat) (names : List String)
    (hi : mandatoryMoovBoxes[i]? = some names)
    (habs : ∀ nm ∈ names, nm ∉ o.moov)
    (hload : (initLoad o).2 = true) (htop : 1 < o.top.length) :
    InitErr.mandatory i ∈ initErrors o := by
  rw [initErrors_of_loaded hload htop]
  exact List.mem_append_right _ (List.mem_filterMap.mpr
    ⟨(names, i), List.mem_zipIdx_iff_getElem?.mpr hi, by simpa using habs⟩)

/-- a box `process_moov` needs (trak, tkhd, mdia, mdhd, hdlr; for video also minf, stbl, stsd),
the moov itself, or the leading ftyp removed: reported as well -/
theorem validator_detects_init_structure (o : InitObs) (hurl : o.hasUrl = true)
    (hst : o.status = if o.ranged then 206 else 200) :
    ("moov" ∉ o.top → InitErr.noMoov ∈ initErrors o) ∧
    ("moov" ∈ o.top → (∃ b ∈ processMoovBoxes o.video, b ∉ o.moov) → InitErr.parse ∈ initErrors o) ∧
    ((initLoad o).2 = true → 1 < o.top.length → o.top.head? ≠ some "ftyp" →
      InitErr.ftyp ∈ initErrors o) := by
  refine ⟨fun h => ?_, fun h ⟨b, hb, hbm⟩ => ?_, fun hl htop hf => ?_⟩
  · have hl : initLoad o = ([InitErr.noMoov], false) := by simp [initLoad, hurl, hst, h]
    simp [initErrors, hl, hurl]
  · have hall : ¬ (∀ x, x ∈ processMoovBoxes o.video → x ∈ o.moov) := fun hx => hbm (hx b hb)
    have hl : initLoad o = ([InitErr.parse], false) := by simp [initLoad, hurl, hst, h, hall]
    simp [initErrors, hl, hurl]
  · simp [initErrors_of_loaded hl htop, hf]

/-- what the server serves (ftyp first, moov with every box the validator asks for) is accepted -/
theorem validator_accepts_init (o : InitObs) (hurl : o.hasUrl = true)
    (hst : o.status = if o.ranged then 206 else 200)
    (hftyp : o.top.head? = some "ftyp") (hmoov : "moov" ∈ o.top) (htop : 1 < o.top.length)
    (hproc : ∀ b ∈ processMoovBoxes o.video, b ∈ o.moov)
    (hmand : ∀ names ∈ mandatoryMoovBoxes, ∃ nm ∈ names, nm ∈ o.moov) :
    initErrors o = [] := by
  have hl : initLoad o = ([], true) := by
    unfold initLoad; simpa [hurl, hst, hmoov] using hproc
  rw [initErrors_of_loaded (by rw [hl]) htop, if_pos hftyp, List.nil_append, mandatoryErrors,
    List.filterMap_eq_nil_iff]
  intro p hp
  obtain ⟨nm, hnm, hc⟩ := hmand p.1 (List.fst_mem_of_mem_zipIdx hp)
  simpa using ⟨nm, hnm, hc⟩

/-- the attributes every manifest of the server carries: complete at every level, `type`
agreeing with the mode, no VOD-only / live-only attribute on the wrong side -/
structure ServerShaped (d : Doc) : Prop where
  periods : 0 < d.periods.length
  profiles : d.hasProfiles = true
  minBuffer : d.hasMinBufferTime = true
  live : d.live = true → d.typeDynamic = some true ∧ d.hasAst = true ∧ d.hasTsbd = true ∧
    d.mpdDuration = none
  vod : d.live = false → d.typeDynamic ≠ some true ∧ d.mpdDuration = some true ∧ d.hasMup = false ∧
    d.hasAst = false ∧ d.nPatches = 0
  periodIds : ∀ p ∈ d.periods, d.live = true → p.hasId = true
  adps : ∀ p ∈ d.periods, ∀ a ∈ p.adps, a.hasMimeType = true ∧ timelineErrors a.template = [] ∧
    ∀ r ∈ a.reps, timelineErrors r.ownTemplate = [] ∧ repAttrErrors d (r.ownTemplate <|> a.template) r = []

theorem validator_accepts_manifest (d : Doc) (h : ServerShaped d) : docErrors d = [] := by
  have hm : mpdErrors d = [] := by
    have hv := h.vod; have hl := h.live
    cases hd : d.live <;> simp_all [mpdErrors, h.periods, h.profiles, h.minBuffer]
  simp only [docErrors, hm, List.map_nil, List.nil_append, List.flatMap_eq_nil_iff, Prod.forall,
    List.append_eq_nil_iff, List.map_eq_nil_iff]
  intro p pi hp
  have hp' := List.fst_mem_of_mem_zipIdx hp
  refine ⟨by simpa using h.periodIds p hp', fun a ai ha => ?_⟩
  obtain ⟨a1, a2, a3⟩ := h.adps p hp' a (List.fst_mem_of_mem_zipIdx ha)
  exact ⟨⟨by simp [a1], a2⟩, fun r ri hr => a3 r (List.fst_mem_of_mem_zipIdx hr)⟩

/-- every level of `docErrors` is the element's own checks followed by an indexed `flatMap` over its children -/
theorem mem_append_flatMap_zipIdx {α β : Type} {l : List α} {i : Nat} {a : α} (h : l[i]? = some a)
    {f : α × Nat → List β} {pre : List β} {x : β} (hx : x ∈ f (a, i)) : x ∈ pre ++ l.zipIdx.flatMap f :=
  List.mem_append_right _ (List.mem_flatMap.mpr ⟨(a, i), List.mem_zipIdx_iff_getElem?.mpr h, hx⟩)

theorem docErrors_of_mpd {d : Doc} {e : MErr} (h : e ∈ mpdErrors d) : (MLoc.mpd, e) ∈ docErrors d :=
  List.mem_append_left _ (List.mem_map.mpr ⟨e, h, rfl⟩)

/-- **a mandatory MPD-level attribute removed** – reported at the MPD element -/
theorem validator_detects_mpd_attribute (d : Doc) :
    (d.hasProfiles = false → (MLoc.mpd, MErr.profiles) ∈ docErrors d) ∧
    (d.hasMinBufferTime = false → (MLoc.mpd, MErr.minBufferTime) ∈ docErrors d) ∧
    (d.live = true → d.typeDynamic ≠ some true → (MLoc.mpd, MErr.mpdType) ∈ docErrors d) ∧
    (d.live = true → d.hasAst = false → (MLoc.mpd, MErr.availabilityStartTime) ∈ docErrors d) ∧
    (d.live = false → d.mpdDuration = none → (∃ p ∈ d.periods, p.hasDuration = false) →
      (MLoc.mpd, MErr.durationMissing) ∈ docErrors d) :=
  ⟨fun h => docErrors_of_mpd (by simp [mpdErrors, h]),
   fun h => docErrors_of_mpd (by simp [mpdErrors, h]),
   fun hl h => docErrors_of_mpd (by simp [mpdErrors, hl, h]),
   fun hl h => docErrors_of_mpd (by simp [mpdErrors, hl, h]),
   fun hl h ⟨p, hp, hpd⟩ => docErrors_of_mpd (by simpa [mpdErrors, hl, h] using ⟨p, hp, hpd⟩)⟩

/-- **Period@id removed (live)** – reported at that Period -/
theorem validator_detects_period_id (d : Doc) (pi : Nat) (p : PeriodAttrs)
    (hp : d.periods[pi]? = some p) (hl : d.live = true) (hid : p.hasId = false) :
    (MLoc.period pi, MErr.periodId) ∈ docErrors d :=
  mem_append_flatMap_zipIdx hp (List.mem_append_left _ (by simp [hl, hid]))

/-- **AdaptationSet@mimeType removed** – reported at that AdaptationSet -/
theorem validator_detects_adaptation_set_mime_type (d : Doc) (pi ai : Nat) (p : PeriodAttrs)
    (a : AdpAttrs) (hp : d.periods[pi]? = some p) (ha : p.adps[ai]? = some a)
    (hm : a.hasMimeType = false) :
    (MLoc.adaptationSet pi ai, MErr.adpMimeType) ∈ docErrors d :=
  mem_append_flatMap_zipIdx hp (mem_append_flatMap_zipIdx ha
    (List.mem_append_left _ (List.mem_append_left _ (by simp [hm]))))

/-- errors of a Representation's attribute checks surface at that Representation -/
theorem docErrors_of_rep (d : Doc) (pi ai ri : Nat) (p : PeriodAttrs) (a : AdpAttrs) (r : RepAttrs)
    (hp : d.periods[pi]? = some p) (ha : p.adps[ai]? = some a) (hr : a.reps[ri]? = some r)
    (e : MErr) (he : e ∈ repAttrErrors d (r.ownTemplate <|> a.template) r) :
    (MLoc.representation pi ai ri, e) ∈ docErrors d :=
  mem_append_flatMap_zipIdx hp (mem_append_flatMap_zipIdx ha (mem_append_flatMap_zipIdx hr
    (List.mem_append_right _ (List.mem_map.mpr ⟨e, he, rfl⟩))))

/-- **Representation@id / @bandwidth, SegmentTemplate@media / @duration removed** – reported at
every Representation that uses the element -/
theorem validator_detects_representation_attribute (d : Doc) (t : Option TemplateAttrs) (r : RepAttrs) :
    (r.hasId = false → MErr.repId ∈ repAttrErrors d t r) ∧
    (r.hasBandwidth = false → MErr.repBandwidth ∈ repAttrErrors d t r) ∧
    (∀ tt, t = some tt → tt.hasInit = true → tt.hasMedia = false → MErr.media ∈ repAttrErrors d t r) ∧
    (∀ tt, t = some tt → tt.hasInit = true → tt.hasMedia = true → (d.live = true → d.hasAst = true ∧ d.hasTsbd = true) →
      tt.timeline = none → tt.hasDuration = false → MErr.tmplDuration ∈ repAttrErrors d t r) :=
  ⟨fun h => by simp [repAttrErrors, h], fun h => by simp [repAttrErrors, h],
   fun tt ht h1 h2 => by simp [repAttrErrors, ht, h1, h2],
   fun tt ht h1 h2 hl h3 h4 => by cases hlive : d.live <;> simp_all [repAttrErrors]⟩

/-- **S@d removed** – reported at the SegmentTimeline (1951de2 made these errors reachable) -/
theorem validator_detects_missing_s_duration (pre post : List SElem) (s : SElem) (cur : Option Int)
    (hd : s.d = none) : TlErr.missingD ∈ (tlExpand cur (pre ++ s :: post)).2 := by
  induction pre generalizing cur with
  | nil => simp [tlExpand, hd]
  | cons x rest ih => cases hx : x.d <;> simp [tlExpand, hx, ih]

/-- **MPD@timeShiftBufferDepth removed (live)** – reported at the MPD element (manifest.py) *and*
at every Representation that needs the value to generate its segments (representation.py) -/
theorem validator_detects_time_shift_buffer_depth (d : Doc) (hl : d.live = true) (h : d.hasTsbd = false) :
    (MLoc.mpd, MErr.timeShiftBufferDepth) ∈ docErrors d ∧
    (∀ t tt r, t = some tt → tt.hasInit = true → tt.hasMedia = true → d.hasAst = true →
      MErr.repTsbd ∈ repAttrErrors d t r) :=
  ⟨docErrors_of_mpd (by simp [mpdErrors, hl, h]),
   fun t tt r ht h1 h2 h3 => by simp [repAttrErrors, ht, h1, h2, h3, hl, h]⟩

/-- **SegmentTemplate@initialization removed** – reported at every Representation using it -/
theorem validator_detects_initialization (d : Doc) (tt : TemplateAttrs) (r : RepAttrs)
    (h : tt.hasInit = false) : MErr.initialization ∈ repAttrErrors d (some tt) r := by
  simp [repAttrErrors, h]

/-- **the whole table**: every manifest shape the server produces (live / static, `$Number$`
template / `$Time$` timeline) is accepted as it is, and for every row of `mandatoryAttrs` that
applies to the shape, removing that attribute yields the row's error at the row's location –
checked row by row by the kernel -/
theorem mandatory_table_detected :
    ∀ live ∈ [true, false], ∀ timeline ∈ [true, false],
      docErrors (canonicalDoc live timeline) = [] ∧
      ∀ r ∈ mandatoryAttrs, r.appliesTo live timeline = true →
        (r.mloc, r.err) ∈ docErrors (removeAttr r (canonicalDoc live timeline)) := by
  decide +kernel

/-- the table names the attribute-level error kinds of the model that a missing attribute can
cause in a live or a static manifest – all but one: `MErr.repMimeType` (a Representation with no
@mimeType, own or inherited; representation.py:590) is not in this list and has no row in
`mandatoryAttrs` -/
theorem mandatory_table_complete :
    ∀ e ∈ [MErr.profiles, .minBufferTime, .mpdType, .availabilityStartTime, .timeShiftBufferDepth,
           .durationMissing, .periodId, .adpMimeType, .repBandwidth, .repId, .initialization, .media,
           .repAst, .repTsbd, .tmplDuration, .sDuration, .sStart],
      ∃ r ∈ mandatoryAttrs, r.err = e := by
  decide +kernel

/-- the `<S>` list the server writes is expanded by the validator into exactly the slice
`[(startG g, durG' g) | g₀ ≤ g < g₀+k]` of the global sequence that `timeline_is_slice`
proves for DASH's reading – so `validator_accepts_time_addressing_partial` is about the list the
validator really generates its expectations from. -/
theorem validator_timeline_is_slice (durs : List Nat) (R ts tcF tsbd fuel : Nat) (hn : 0 < durs.length)
    (hpos : AdvPositive durs R) (s : SNode) (rest : List SNode) (t0 : Int)
    (hl : timelineLive durs R ts tcF tsbd fuel = s :: rest) (hs : s.start = some t0)
    (hwf : ∀ x ∈ s :: rest, x.dur.isSome = true ∧ 1 ≤ x.count) :
    ∃ k, tlExpand none ((timelineLive durs R ts tcF tsbd fuel).map toSElem)
      = (sliceG durs R (index durs R tcF) k, []) := by
  obtain ⟨k, hk⟩ := timeline_is_slice durs R ts tcF tsbd fuel hn hpos
  refine ⟨k, ?_⟩
  rw [← hk, hl]
  exact tlExpand_eq_expandFrom (s :: rest) none hwf fun _ x hx => by cases hx; simp [hs]

/-- the live timeline has to cover the time-shift buffer (representation.py:336-341): a timeline
whose advertised durations add up to the buffer depth – what `generateSegmentTimeline` produces,
its loop runs `while dur < timeShiftBufferDepth·timescale` – is accepted … -/
theorem validator_accepts_timeline_depth (live : Bool) (targetUs : Option Int) (tsbdUs : Int) (ts : Nat)
    (entries : List (Int × Int))
    (h : tsbdUs * ts ≤ ((entries.map (·.2)).sum) * 1000000) :
    timelineDepthErrs live targetUs tsbdUs ts entries = [] := by
  unfold timelineDepthErrs
  split <;> simp [h]

/-- … and **a gap that leaves less than the buffer depth** is reported at the Representation even
when the segment after the gap is never fetched -/
theorem validator_detects_short_timeline (tsbdUs : Int) (ts : Nat) (entries : List (Int × Int))
    (h : ((entries.map (·.2)).sum) * 1000000 < tsbdUs * ts) :
    timelineDepthErrs true none tsbdUs ts entries = [RepErr.timelineShort] := by
  unfold timelineDepthErrs
  have : ¬ (tsbdUs * ts ≤ ((entries.map (·.2)).sum) * 1000000) := by omega
  simp [this]

/-- the refresh checks are independent of each other: the error list is the concatenation of
the three separate verdicts, so no check can be masked by the outcome (or absence) of another -/
theorem refreshErrors_independent (r : Refresh) :
    (RefreshErr.mpdId ∈ refreshErrors r ↔ r.idEqual = false) ∧
    (RefreshErr.availabilityStartTime ∈ refreshErrors r ↔ r.prevAst ≠ r.ast) ∧
    (RefreshErr.stale ∈ refreshErrors r ↔ ∃ m, r.mup = some m ∧ 3 * m ≤ r.publish - r.prevPublish) := by
  cases h : r.mup <;> simp [refreshErrors, h]

theorem refreshErrors_eq_nil_iff (r : Refresh) :
    refreshErrors r = [] ↔
      r.idEqual = true ∧ r.prevAst = r.ast ∧ ∀ m, r.mup = some m → r.publish - r.prevPublish < 3 * m := by
  cases h : r.mup <;> simp [refreshErrors, h]

/-- **availabilityStartTime changed on a later manifest** – for *every* refreshed manifest: with
or without MPD@minimumUpdatePeriod (`r.mup` is an arbitrary `Option`), whatever MPD@id and
publishTime did.  validator.py:246-248 sits outside the `minimumUpdatePeriod is not None` guard,
which only protects the age check `3 * minimumUpdatePeriod`. -/
theorem validator_detects_ast_change (r : Refresh) (h : r.prevAst ≠ r.ast) :
    RefreshErr.availabilityStartTime ∈ refreshErrors r :=
  (refreshErrors_independent r).2.1.mpr h

/-- the same spelled out for a manifest that announces no updates (`mup = none`, the server
option `mup=-1` and `manifest_ef.mpd`): the error list is exactly the AST error -/
theorem validator_detects_ast_change_without_update_period (prevAst ast : Option Int)
    (prevPublish publish : Int) (h : prevAst ≠ ast) :
    refreshErrors { idEqual := true, prevAst := prevAst, ast := ast, prevPublish := prevPublish,
                    publish := publish, mup := none } = [RefreshErr.availabilityStartTime] := by
  simp [refreshErrors, h]

/-- **MPD@id changed on a later manifest** (validator.py:242-245, clause 5.4.1) – again for every
`mup` -/
theorem validator_detects_mpd_id_change (r : Refresh) (h : r.idEqual = false) :
    RefreshErr.mpdId ∈ refreshErrors r :=
  (refreshErrors_independent r).1.mpr h

/-- a manifest without MPD@minimumUpdatePeriod is never `stale`, and two versions of it with the
same id and availabilityStartTime are accepted whatever their publishTimes are (the validator
reloads it after `DEFAULT_UPDATE_PERIOD`, validator.py:314-317) -/
theorem validator_accepts_refresh_without_update_period (ast : Option Int) (prevPublish publish : Int) :
    refreshErrors { idEqual := true, prevAst := ast, ast := ast, prevPublish := prevPublish,
                    publish := publish, mup := none } = [] :=
  (refreshErrors_eq_nil_iff _).mpr ⟨rfl, rfl, fun _ h => nomatch h⟩

open DashLive.LiveTiming in
/-- **two manifests of the server are accepted as successive versions**: same stream
(`availabilityStartTime` equal – `symbolic_stable` / an explicit start), second request at most
two update periods after the first (the validator sleeps until `publishTime + minimumUpdatePeriod`,
validator.py:306-324).  Then `publishTime` has advanced by less than `3·minimumUpdatePeriod`
(`publish_in_range`, `publish_quantised`). -/
theorem validator_accepts_refresh_partial (now₁ now₂ : Int) (ref : Ref) (o : Options) (p : Int)
    (h₁ : Accepted now₁ o) (h₂ : Accepted now₂ o)
    (hast : (calculateLiveParams now₁ ref o).availabilityStartTime
              = (calculateLiveParams now₂ ref o).availabilityStartTime)
    (hp₁ : (calculateLiveParams now₁ ref o).minimumUpdatePeriod = some p)
    (hsoon : now₂ - now₁ ≤ 2 * p * usPerSec) :
    refreshErrors
      { idEqual := true
        prevAst := some (calculateLiveParams now₁ ref o).availabilityStartTime
        ast := some (calculateLiveParams now₂ ref o).availabilityStartTime
        prevPublish := (calculateLiveParams now₁ ref o).publishTime
        publish := (calculateLiveParams now₂ ref o).publishTime
        mup := some (p * usPerSec) } = [] := by
  -- publishTime₂ ≤ now₂ and now₁ − publishTime₁ < p s: with `hsoon` the age is below 3·p s
  have a := (publish_in_range now₂ ref o h₂).2.1
  have b := (publish_quantised now₁ ref o h₁ p hp₁).2.2
  refine (refreshErrors_eq_nil_iff _).mpr ⟨rfl, by rw [hast], fun m hm => ?_⟩
  cases hm
  dsimp only
  unfold usPerSec at *
  omega

/-- `refresh` only moves the tree's errors into the history -/
theorem mem_final_apply (r : Report) (op : SessionOp) (e : Nat) :
    e ∈ (r.apply op).final ↔ e ∈ r.final ∨ ∃ t c, op = .found t c ∧ (e ∈ t ∨ e ∈ c) := by
  cases op with
  | found t c =>
    simp only [Report.apply, Report.final, List.mem_append, SessionOp.found.injEq, and_assoc,
      exists_and_left, exists_eq_left', or_assoc]
    exact or_congr_right (or_congr_right or_left_comm)
  | refresh =>
    simp only [Report.apply, Report.final, List.mem_append, List.flatten_append, List.flatten_cons,
      List.flatten_nil, List.append_nil, or_false, reduceCtorEq, false_and, exists_false, or_assoc]
    exact or_congr_right or_comm

theorem mem_final_foldl (ops : List SessionOp) (r : Report) (e : Nat) :
    e ∈ (ops.foldl Report.apply r).final ↔
      e ∈ r.final ∨ ∃ t c, SessionOp.found t c ∈ ops ∧ (e ∈ t ∨ e ∈ c) := by
  induction ops generalizing r with
  | nil => simp
  | cons op rest ih =>
    simp only [List.foldl_cons, ih, mem_final_apply, List.mem_cons, or_and_right, exists_or, or_assoc,
      eq_comm (a := op)]

/-- **monotone accumulation**: an error found at any step of a session – on the validator itself
(the cross-refresh findings) or in the manifest tree of that moment – is in the final report
`get_errors()`, whatever passes and however many refreshes follow; in particular
`has_errors()` is true at the end. -/
theorem final_report_contains_every_pass (pre post : List SessionOp) (top tree : List Nat) (e : Nat)
    (h : e ∈ top ∨ e ∈ tree) :
    e ∈ (runSession (pre ++ SessionOp.found top tree :: post)).final ∧
    (runSession (pre ++ SessionOp.found top tree :: post)).hasErrors = true := by
  have hmem : e ∈ (runSession (pre ++ SessionOp.found top tree :: post)).final :=
    (mem_final_foldl _ _ e).mpr (Or.inr ⟨top, tree, by simp, h⟩)
  exact ⟨hmem, by simpa [Report.hasErrors] using List.ne_nil_of_mem hmem⟩

/-- and nothing is invented: every error of the final report was found at some step -/
theorem final_report_only_findings (ops : List SessionOp) (e : Nat)
    (h : e ∈ (runSession ops).final) :
    ∃ t c, SessionOp.found t c ∈ ops ∧ (e ∈ t ∨ e ∈ c) :=
  ((mem_final_foldl ops Report.init e).mp h).resolve_left (by simp [Report.init, Report.final])

/-! ## segment availability: what the server lists is examined

The server's SegmentTimeline starts with the segment that CONTAINS the left edge of the time
shift window (`generateSegmentTimeline`: the segment holding `firstAvailableTime = now − depth`),
so a listed segment ends after `now − depth`.  That is `hlisted`: the validator's `start` – the
instant the segment is complete – is later than `now − depth` (driver channel `vavail` counts how
often the sessions of the real server satisfy it; in most of them the stronger `hinside` holds).
The validator's interval then ends more than one segment duration after `now`, so with segments
at least as long as the two-second margin every listed segment is fetched at `now` …
`now + (duration − margin)`. -/

theorem availDecision_fetch_iff (now : Int) (a : Avail) :
    availDecision now (some a) = Fetch.fetch ↔ a.start ≤ now ∧ now + availMarginUs ≤ a.stop := by
  unfold availDecision
  by_cases h1 : a.start > now
  · simp [h1]; omega
  · by_cases h2 : a.stop < now + availMarginUs
    · simp [h1, h2]
    · simp [h1, h2]; omega

theorem listed_segment_examined (now now' tsbd durUs : Int) (a : Avail)
    (hstop : a.stop = a.start + tsbd + durUs)
    (hlisted : now - tsbd < a.start) (hcomplete : a.start ≤ now)
    (h1 : now ≤ now') (h2 : now' + availMarginUs ≤ now + durUs) :
    availDecision now' (some a) = Fetch.fetch :=
  (availDecision_fetch_iff now' a).mpr ⟨by omega, by omega⟩

/-- a segment that STARTS inside the window (every listed segment but the oldest): two segment
durations of slack, so one-second segments suffice -/
theorem listed_segment_examined_inside (now now' tsbd durUs : Int) (a : Avail)
    (hstop : a.stop = a.start + tsbd + durUs)
    (hinside : now - tsbd ≤ a.start - durUs) (hcomplete : a.start ≤ now)
    (h1 : now ≤ now') (h2 : now' + availMarginUs ≤ now + 2 * durUs) :
    availDecision now' (some a) = Fetch.fetch :=
  (availDecision_fetch_iff now' a).mpr ⟨by omega, by omega⟩

/-- the interval of the model has the shape the two theorems ask for -/
theorem segmentAvailability_stop (past tsbd : Int) (ts : Nat) (pto sn sd : Int) (e : SegExp) :
    (segmentAvailability past tsbd ts pto sn sd e).stop
      = (segmentAvailability past tsbd ts pto sn sd e).start + tsbd + tcToUs sd ts := rfl

/-- a segment is never both left for later and given up: once complete it is `fetch` or `expired`,
and `expired` only when its interval ends within the margin -/
theorem availDecision_expired_iff (now : Int) (a : Avail) :
    availDecision now (some a) = Fetch.expired ↔ a.start ≤ now ∧ a.stop < now + availMarginUs := by
  unfold availDecision
  by_cases h1 : a.start > now
  · simp [h1]; omega
  · by_cases h2 : a.stop < now + availMarginUs
    · simp [h1, h2]; omega
    · simp [h1, h2]

/-- an AST finding (id 7, on the validator itself) at the first of five refreshes, segment findings
in the tree around it: all are in the final report -/
example : (runSession [.found [] [], .refresh, .found [7] [3], .refresh, .found [8] [], .refresh,
    .found [] [4], .refresh, .found [] [], .refresh, .found [] []]).final = [3, 4, 7, 8] := by decide

/-- a sound clear video fragment: 4 samples, trun pointing at the mdat payload -/
def exObs (seq tfdt : Nat) : SegObs :=
  { status := 200, ctypeOk := true, nAtoms := 3, hasMoof := true, hasMdat := true, emsgOk := true,
    seq := seq, tfdt := tfdt, baseDataOffset := 0, dataOffset := 120,
    samples := [⟨10, 240, 0⟩, ⟨10, 240, 0⟩, ⟨10, 240, 0⟩, ⟨10, 240, 0⟩],
    mdatPos := 112, mdatHdr := 8, mdatSize := 48, senc := none, saio := none }

def exCtx : RepCtx :=
  { video := true, optEncrypted := false, infoEncrypted := false, ivKnown := false, hasMoov := true,
    dashTs := 240, mediaTs := some 240, startNumber := 1, tmplDuration := some 960 }

/-- `Sound` is inhabited by an ordinary fragment -/
example : Sound exCtx 0 (exObs 7 5760) := by constructor <;> decide

/-- bbb-like video (4 × 960 ticks at 240 Hz, reference = itself): the hypotheses of
`validator_accepts_time_addressing_partial` hold – `hcons` by `uniform_consecutive` – and the pass over
three timeline entries starting at position 5 is clean -/
example : located (repPass exCtx none (fetchAll
    ((sliceG [960, 960, 960, 960] 3840 5 3).map (timeExp 10))
    [exObs 6 4800, exObs 7 5760, exObs 8 6720])) = [] := by decide

example : ∀ i, i < 2 → startG [960, 960, 960, 960] 3840 (5 + i + 1) / 960
    = startG [960, 960, 960, 960] 3840 (5 + i) / 960 + 1 := by decide

/-- the same stream in `$Number$` addressing, numbers 6, 7, 8 -/
example : located (repPass exCtx none (fetchAll
    ((List.range 3).map (numberExp 960 (templateTolerance false 240 24 1) 6))
    [exObs 6 4800, exObs 7 5760, exObs 8 6720])) = [] := by decide

/-- … and its layout hypotheses `hsegdur`, `hhalf`, `hcont` at that instance
(`g₀ = 5`, `N₀ = 6`, `sn = 1`, `sd = 960`, video tolerance 10 ticks) -/
example : ∀ i, i < 2 →
    almostEqual (960 : Int) (durG [960, 960, 960, 960] (5 + i)) 240 = true ∧
    almostEqual (((6 : Int) + ((i + 1 : Nat) : Int) - 1) * 960)
      ((startG [960, 960, 960, 960] 3840 (5 + i) : Int) + (durG [960, 960, 960, 960] (5 + i) : Int)) (960 / 2) = true ∧
    almostEqual ((startG [960, 960, 960, 960] 3840 (5 + i) : Int) + (durG [960, 960, 960, 960] (5 + i) : Int))
      (startG [960, 960, 960, 960] 3840 (5 + i + 1) : Int) (templateTolerance false 240 24 1 (i + 1)) = true := by
  decide

/-- **negative witness (ledger `time-seqnum-irregular`)**: an irregular layout
(960, 480, 1440, 960 ticks; `segment_duration` 960) violates `hcons` – positions 1 and 2 start
at 960 and 1440, both numbered `1 + sn` – and the validator rejects the pristine stream at the
second of them -/
example : startG [960, 480, 1440, 960] 3840 2 / 960 ≠ startG [960, 480, 1440, 960] 3840 1 / 960 + 1 := by
  decide

def exObsDur (seq tfdt d : Nat) : SegObs :=
  { (exObs seq tfdt) with samples := [⟨10, d, 0⟩, ⟨10, 0, 1⟩, ⟨10, 0, 2⟩, ⟨10, 0, 3⟩] }

example : located (repPass exCtx none (fetchAll
    ((sliceG [960, 480, 1440, 960] 3840 1 2).map (timeExp 10))
    [exObsDur 2 960 480, exObsDur 2 1440 1440])) = [(1, SegErr.seqNum)] := by decide

/-- **negative witness for `hcont`**: a loop drift (here 500 ticks) beyond the decode-time
tolerance (10 ticks) makes the validator reject the first segment of the next loop in
`$Number$` addressing -/
example : located (repPass exCtx none (fetchAll
    ((List.range 2).map (numberExp 960 (templateTolerance false 240 24 1) 4))
    [exObs 4 2880, exObs 5 4340])) = [(1, SegErr.decodeTime)] := by decide

/-- each catalogue corruption on the concrete fragment: decode time +11 ticks (tolerance 10),
sequence number +1, trun offset +4, and the tolerance boundary itself (+10 is accepted) -/
example : validateSegment exCtx (timeExp 10 (5760, 960)) (exObs 7 5771) = [SegErr.decodeTime] := by decide
example : validateSegment exCtx (timeExp 10 (5760, 960)) (exObs 7 5770) = [] := by decide
example : validateSegment exCtx { (timeExp 10 (5760, 960)) with expSeq := some 7 } (exObs 8 5760)
    = [SegErr.seqNum] := by decide
example : validateSegment exCtx (timeExp 10 (5760, 960)) { (exObs 7 5760) with dataOffset := 124 }
    = [SegErr.trunFirst, SegErr.trunLast] := by decide

/-- **expectation `some 0`** (first segment of a static `$Time$` presentation, `…/time/0.m4v`):
decode time 480 instead of 0 is reported, decode time 0 is accepted, `none` compares nothing;
likewise an expected sequence number 0 -/
example : validateSegment exCtx (timeExp 10 (0, 960)) (exObs 1 480) = [SegErr.decodeTime] := by decide
example : validateSegment exCtx (timeExp 10 (0, 960)) (exObs 1 0) = [] := by decide
example : validateSegment exCtx { (timeExp 10 (0, 960)) with expDecode := none } (exObs 1 480) = [] := by decide
example : validateSegment exCtx { (timeExp 10 (0, 960)) with expSeq := some 0 } (exObs 1 0)
    = [SegErr.seqNum] := by decide
example : validateSegment exCtx { (timeExp 10 (0, 960)) with expSeq := some 0 } (exObs 0 0) = [] := by decide
/-- the first entry of a static timeline in a whole pass: position 0, expected at 0, served at 480 -/
example : located (repPass exCtx none (fetchAll
    ((sliceG [960, 960, 960, 960] 3840 0 2).map (timeExp 10)) [exObs 1 480, exObs 2 960]))
    = [(0, SegErr.decodeTime)] := by decide

/-- a fragment whose mdat has the 16-byte largesize header (moof 112 bytes, payload at 128): the
server's data_offset 128 is accepted, 120 ("8 too small", pointing into the header) is reported,
and the compact-header offset convention does not apply -/
def exObs16 (dataOffset : Int) : SegObs :=
  { (exObs 7 5760) with dataOffset := dataOffset, mdatHdr := 16, mdatSize := 56 }

example : validateSegment exCtx (timeExp 10 (5760, 960)) (exObs16 128) = [] := by decide
example : validateSegment exCtx (timeExp 10 (5760, 960)) (exObs16 120) = [SegErr.trunFirst] := by decide
example : Sound exCtx 0 (exObs16 128) := by constructor <;> decide

/-- an encrypted fragment whose saio offset is off by one -/
example : validateSegment { exCtx with optEncrypted := true, infoEncrypted := true, ivKnown := true }
    (timeExp 10 (5760, 960))
    { (exObs 7 5760) with senc := some (40, 16, 4), saio := some [57] } = [SegErr.saioOffset] := by decide

/-- an encrypted fragment with an in-band event in front of the moof (moof at 62, default-base-is-moof:
the implied base IS the moof position, media_segment.py:329-333): the server's saio offset 121 points at
the first senc entry (62 + 121 = 183) and is accepted; 183 – right only if the base were 0 – is reported,
and so is 121 when the same boxes sit in a segment whose moof is the first box -/
def exEncObs (moofPos : Nat) (saio : Nat) : SegObs :=
  { (exObs 7 5760) with baseDataOffset := moofPos, dataOffset := 120, mdatPos := moofPos + 112,
                        senc := some (moofPos + 105, 16, 4), saio := some [saio] }

def exEncCtx : RepCtx := { exCtx with optEncrypted := true, infoEncrypted := true, ivKnown := true }

example : validateSegment exEncCtx (timeExp 10 (5760, 960)) (exEncObs 62 121) = [] := by decide
example : validateSegment exEncCtx (timeExp 10 (5760, 960)) (exEncObs 62 183) = [SegErr.saioOffset] := by decide
example : validateSegment exEncCtx (timeExp 10 (5760, 960)) (exEncObs 0 121) = [] := by decide
example : validateSegment exEncCtx (timeExp 10 (5760, 960)) (exEncObs 0 183) = [SegErr.saioOffset] := by decide

/-- a gap: the timeline of positions 5, 6, 7 with 6 removed -/
example : located (repPass exCtx none (fetchAll
    ([(4800, 960), (6720, 960)].map (timeExp 10)) [exObs 6 4800, exObs 8 6720])) = [(1, SegErr.seqNum)] := by
  decide

/-- 30 s buffer at 240 Hz: eight 960-tick entries cover it (7680 ≥ 7200), seven do not -/
example : timelineDepthErrs true none 30000000 240 (sliceG [960, 960, 960, 960] 3840 5 8) = [] := by decide
example : timelineDepthErrs true none 30000000 240 (sliceG [960, 960, 960, 960] 3840 5 7)
    = [RepErr.timelineShort] := by decide

/-- init segment as served, and with `mvex` (→ also `trex`) removed -/
def exInit (moov : List String) : InitObs :=
  { hasUrl := true, status := 200, video := true, top := ["ftyp", "free", "moov"], moov := moov }

example : initErrors (exInit ["mvhd", "mvex", "trex", "trak", "tkhd", "mdia", "mdhd", "hdlr", "minf",
    "vmhd", "dinf", "stbl", "stsd", "stts", "stsc", "stsz", "stco"]) = [] := by decide +kernel
example : initErrors (exInit ["mvhd", "trak", "tkhd", "mdia", "mdhd", "hdlr", "minf",
    "vmhd", "dinf", "stbl", "stsd", "stts", "stsc", "stsz", "stco"])
    = [InitErr.mandatory 1, InitErr.mandatory 2] := by decide +kernel

/-- a live manifest as served … -/
def exDoc : Doc :=
  { live := true, hasProfiles := true, hasMinBufferTime := true, typeDynamic := some true, hasAst := true,
    hasTsbd := true, hasMup := true, mpdDuration := none, nPatches := 0,
    periods := [{ hasId := true, hasDuration := false, adps := [
      { hasMimeType := true,
        template := some { hasMedia := true, hasInit := true, hasDuration := true, timeline := none },
        reps := [{ hasId := true, hasBandwidth := true, hasMimeType := true }] }] }] }

example : docErrors exDoc = [] := by decide
/-- … without `Period@id`, and without `SegmentTemplate@media` -/
example : docErrors { exDoc with periods := [{ hasId := false, hasDuration := false, adps := [
      { hasMimeType := true,
        template := some { hasMedia := true, hasInit := true, hasDuration := true, timeline := none },
        reps := [{ hasId := true, hasBandwidth := true, hasMimeType := true }] }] }] }
    = [(MLoc.period 0, MErr.periodId)] := by decide
example : docErrors { exDoc with periods := [{ hasId := true, hasDuration := false, adps := [
      { hasMimeType := true,
        template := some { hasMedia := false, hasInit := true, hasDuration := true, timeline := none },
        reps := [{ hasId := true, hasBandwidth := true, hasMimeType := true }] }] }] }
    = [(MLoc.representation 0 0 0, MErr.media)] := by decide

/-- refresh: availabilityStartTime one second later; and the `stale` boundary (`age < 3·mup`) -/
def exRefresh (ast publish : Int) : Refresh :=
  { idEqual := true, prevAst := some 0, ast := some ast, prevPublish := 0, publish := publish,
    mup := some 8000000 }

example : refreshErrors (exRefresh 1000000 8000000) = [RefreshErr.availabilityStartTime] := by decide
example : refreshErrors (exRefresh 0 24000000) = [RefreshErr.stale] := by decide
example : refreshErrors (exRefresh 0 23999999) = [] := by decide
/-- no MPD@minimumUpdatePeriod: AST two seconds later is reported, an old publishTime is not `stale` -/
example : refreshErrors { exRefresh 2000000 90000000 with mup := none }
    = [RefreshErr.availabilityStartTime] := by decide
example : refreshErrors { exRefresh 0 90000000 with mup := none, idEqual := false }
    = [RefreshErr.mpdId] := by decide

open DashLive.LiveTiming in
/-- non-vacuity of `validator_accepts_refresh_partial`: `start=year`, default update period of
8 s, second request 9.5 s after the first – inside every hypothesis (the instants are C08's `exNow`) -/
example : Accepted exNow { start := .year } ∧ Accepted (exNow + 9500000) { start := .year } ∧
    (calculateLiveParams exNow exRef { start := .year }).availabilityStartTime
      = (calculateLiveParams (exNow + 9500000) exRef { start := .year }).availabilityStartTime ∧
    (calculateLiveParams exNow exRef { start := .year }).minimumUpdatePeriod = some 8 ∧
    (exNow + 9500000) - exNow ≤ 2 * 8 * usPerSec :=
  ⟨⟨by decide, by intro t off h; cases h⟩, ⟨by decide, by intro t off h; cases h⟩,
   by decide +kernel, by decide +kernel, by decide⟩

/-- two-second segments, depth 8 s, timescale 240, `now` = 100.3 s after the Period began: the
segment that holds the left edge of the window (decode 92 s … 94 s) is fetched … -/
def exAvailExp (dt : Int) : SegExp := { expSeq := none, expDecode := some dt, expDur := some 480, tol := 30, pto := 0 }
example : segmentAvailability 0 8000000 240 0 1 480 (exAvailExp 22080) = { start := 94000000, stop := 104000000 } := by
  decide
example : availDecision 100300000 (some (segmentAvailability 0 8000000 240 0 1 480 (exAvailExp 22080)))
    = Fetch.fetch := by decide
/-- … whereas an interval WITHOUT the extra segment duration (stop = start + depth) would give it
up: the term is what makes the theorem true -/
example : availDecision 100300000 (some { start := 94000000, stop := 94000000 + 8000000 }) = Fetch.expired := by
  decide
/-- $Number$ addressing: the decode time is derived from the number; segment 47 of 2 s segments -/
example : segmentAvailability 0 8000000 240 0 1 480 { exAvailExp 0 with expSeq := some 47, expDecode := none }
    = { start := 94000000, stop := 104000000 } := by decide
/-- not yet complete -/
example : availDecision 93999999 (some { start := 94000000, stop := 104000000 }) = Fetch.notYet := by decide
/-- ONE-second segments lie outside `h2` of `listed_segment_examined` (duration < margin): the listed
segment that holds the window's edge is given up although the server lists and serves it –
ledger `short-segments-oldest-skipped` -/
example : availDecision 100300000 (some (segmentAvailability 0 8000000 240 0 1 240
    { exAvailExp 21840 with expDur := some 240 })) = Fetch.expired := by decide

end DashLive.Validator
