import DashLive.Lemmas.Evolve
import DashLive.Props.C01
import DashLive.Props.C08
import DashLive.Model.Patch
/-!
# C09 – successive manifests and MPD patches evolve consistently

Property theorems, with the lemmas about `windowEnd` and `List.lookup` they rest on.
Timelines: `Model/Segments.lean` (every live timeline is a slice
of one global sequence – `timeline_is_slice`); clock side: `Model/LiveTiming.lean` (C08);
patch documents: `Model/Patch.lean` (`ServePatch.get`, manifest_requests.py:216-292,
renders the same `ManifestContext` functions as the full manifest at request time).
-/
namespace DashLive.Segments

-- Trap: when one index addresses two windows write `l₁[i]'h₁`: `get_elem_tactic`'s `assumption` compares
-- `… < l₂.length` with `… < l₁.length` and unfolds `tcFirst`'s `* 1000000` until the recursion limit.
/-- the DASH expansion of the SegmentTimeline a live manifest carries for window `w` -/
def liveEntries (durs : List Nat) (R ts : Nat) (w : Win) (fuel : Nat) : List (Int × Int) :=
  expand (timelineLive durs R ts (tcFirst w ts) w.tsbd fuel)

/-- **Two manifests of the same stream agree on every segment they both list.**  For any
two windows (two clocks, any depths), if an entry of one timeline and an entry of the
other have the same start, they are the same entry (same duration) – both timelines
are slices of the one global sequence, whose starts are strictly increasing. -/
theorem C09_shared_entries_equal (durs : List Nat) (R ts : Nat) (w₁ w₂ : Win) (f₁ f₂ : Nat)
    (hn : 0 < durs.length) (hpos : AdvPositive durs R) :
    let l₁ := liveEntries durs R ts w₁ f₁
    let l₂ := liveEntries durs R ts w₂ f₂
    ∀ i j (hi : i < l₁.length) (hj : j < l₂.length), (l₁[i]).1 = (l₂[j]).1 → l₁[i] = l₂[j] := by
  dsimp only [liveEntries]
  intro i j hi hj heq
  rw [timelineLive_get durs R ts _ _ f₁ hn hpos i hi, timelineLive_get durs R ts _ _ f₂ hn hpos j hj]
    at heq ⊢
  rw [(hpos.strictMono hn).injective (Int.ofNat_inj.mp heq)]

/-- **Two manifests agree on every segment they both describe, even partially.**  If an entry
of one timeline and an entry of the other overlap in time (each starts before the other
ends), they are the same entry – same start and same duration. -/
theorem C09_overlapping_entries_equal (durs : List Nat) (R ts : Nat) (w₁ w₂ : Win) (f₁ f₂ : Nat)
    (hn : 0 < durs.length) (hpos : AdvPositive durs R) :
    let l₁ := liveEntries durs R ts w₁ f₁
    let l₂ := liveEntries durs R ts w₂ f₂
    ∀ i j (hi : i < l₁.length) (hj : j < l₂.length),
      (l₁[i]).1 < (l₂[j]).1 + (l₂[j]).2 → (l₂[j]).1 < (l₁[i]).1 + (l₁[i]).2 → l₁[i] = l₂[j] := by
  dsimp only [liveEntries]
  intro i j hi hj ho1 ho2
  rw [timelineLive_get durs R ts _ _ f₁ hn hpos i hi, timelineLive_get durs R ts _ _ f₂ hn hpos j hj]
    at ho1 ho2 ⊢
  rw [eq_of_overlap durs R hn hpos ho1 ho2]

/-- **The listed window starts no earlier as firstAvailableTime advances.**  If
`firstAvailableTime` of the second request is not before that of the first, the first
listed position does not move back. -/
theorem C09_window_start_forward (durs : List Nat) (R ts : Nat) (w₁ w₂ : Win)
    (hR : 0 < R) (hn : 0 < durs.length)
    (hF : w₁.E - w₁.tsbd * 1000000 ≤ w₂.E - w₂.tsbd * 1000000) :
    index durs R (tcFirst w₁ ts) ≤ index durs R (tcFirst w₂ ts) :=
  index_mono durs R _ _ hR hn (tdToTc_mono ts hF)

/-- with a constant buffer depth (any stream at least as old as its depth) firstAvailableTime
follows the clock -/
theorem fat_mono_const_depth (w₁ w₂ : Win) (hd : w₁.tsbd = w₂.tsbd) (hE : w₁.E ≤ w₂.E) :
    w₁.E - w₁.tsbd * 1000000 ≤ w₂.E - w₂.tsbd * 1000000 := by
  rw [hd]; omega

/-- end of the listed window: start of the position after the last listed one -/
def windowEnd (durs : List Nat) (R ts : Nat) (w : Win) (fuel : Nat) : Nat :=
  startG durs R (index durs R (tcFirst w ts) + (liveEntries durs R ts w fuel).length)

/-- the listed window ends at the first position that starts a buffer depth or more after its start -/
theorem windowEnd_spec (durs : List Nat) (R ts : Nat) (w : Win) (fuel : Nat) (hn : 0 < durs.length)
    (hpos : AdvPositive durs R) (hf : w.tsbd * ts ≤ fuel) :
    startG durs R (index durs R (tcFirst w ts)) + w.tsbd * ts ≤ windowEnd durs R ts w fuel ∧
    ∀ q, startG durs R (index durs R (tcFirst w ts)) + w.tsbd * ts ≤ startG durs R q →
      windowEnd durs R ts w fuel ≤ startG durs R q := by
  unfold windowEnd liveEntries
  rw [expand_timelineLive durs R ts _ _ fuel hn hpos, sliceG_length]
  have h := rawLoop_window durs R hn hpos (w.tsbd * ts) fuel (index durs R (tcFirst w ts)) hf
  exact ⟨h.1, fun q hq => (hpos.strictMono hn).monotone (h.2 q hq)⟩

/-- **The listed window ends no earlier as the clock advances** (same buffer depth, fuel
sufficient for the generator loop to finish): the last listed segment of the later
manifest does not end before the last listed segment of the earlier one. -/
theorem C09_window_end_forward (durs : List Nat) (R ts : Nat) (w₁ w₂ : Win) (f₁ f₂ : Nat)
    (hR : 0 < R) (hn : 0 < durs.length) (hpos : AdvPositive durs R)
    (hd : w₁.tsbd = w₂.tsbd) (hE : w₁.E ≤ w₂.E) (hB : 0 < w₁.tsbd * ts)
    (hf₁ : w₁.tsbd * ts ≤ f₁) (hf₂ : w₂.tsbd * ts ≤ f₂) :
    windowEnd durs R ts w₁ f₁ ≤ windowEnd durs R ts w₂ f₂ := by
  have hg := (hpos.strictMono hn).monotone
    (C09_window_start_forward durs R ts w₁ w₂ hR hn (fat_mono_const_depth w₁ w₂ hd hE))
  -- the later window ends a depth or more after its start, which is not before the earlier start
  -- (`hB` is not needed)
  refine (windowEnd_spec durs R ts w₁ f₁ hn hpos hf₁).2 _ ?_
  have := (windowEnd_spec durs R ts w₂ f₂ hn hpos hf₂).1
  unfold windowEnd at this
  rw [hd]
  omega

open DashLive.LiveTiming in
/-- the handler-side window obtained from the C08 model has `tsbd·10⁶ ≤ E`, which is what
C01/C09 assume of a `Win` -/
theorem window_from_timing (now : Int) (ref : Ref) (o : Options) (h : Accepted now o) :
    0 ≤ (calculateLiveParams now ref o).timeShiftBufferDepth ∧
    (calculateLiveParams now ref o).timeShiftBufferDepth * 1000000
      ≤ (calculateLiveParams now ref o).elapsedTime := by
  have h1 := tsbd_bounds now ref o h
  have h2 := (elapsed_eq now ref o h).1
  unfold usPerSec at h1
  omega

open DashLive.LiveTiming in
/-- **publishTime and availabilityStartTime never move backward** between two requests with
the same options that resolve the same availabilityStartTime (C08 `publish_mono`). -/
theorem C09_publish_ast_mono (now₁ now₂ : Int) (ref : Ref) (o : Options)
    (h₁ : Accepted now₁ o) (h₂ : Accepted now₂ o) (hle : now₁ ≤ now₂)
    (hast : (calculateLiveParams now₁ ref o).availabilityStartTime
      = (calculateLiveParams now₂ ref o).availabilityStartTime) :
    (calculateLiveParams now₁ ref o).publishTime ≤ (calculateLiveParams now₂ ref o).publishTime ∧
    (calculateLiveParams now₁ ref o).availabilityStartTime
      ≤ (calculateLiveParams now₂ ref o).availabilityStartTime :=
  ⟨publish_mono now₁ now₂ ref o h₁ h₂ hle hast, Int.le_of_eq hast⟩

open DashLive.LiveTiming in
/-- the window `LiveMedia` works with, taken from the C08 model of `DashTiming` -/
def winOfTiming (lt : LiveTiming) : Win :=
  { E := lt.elapsedTime.toNat, tsbd := lt.timeShiftBufferDepth.toNat, leeway := lt.leeway.toNat }

open DashLive.LiveTiming in
/-- **C08 ∘ C01 (composition).**  For *every* accepted clock and option set, the window the
media handler rebuilds from `DashTiming` satisfies C01's window hypothesis, so under the
leeway/segment hypotheses every listed `$Time$` entry that ends by now is served (200). -/
theorem C01_time_from_clock (now : Int) (ref : Ref) (o : Options) (h : Accepted now o)
    (conv : Nat → Int) (durs : List Nat) (ts sd sn R fuel : Nat)
    (hn : 2 ≤ durs.length) (hR : 0 < R) (hts : 0 < ts) (hsd : 0 < sd) (hconv : ConvSpec conv ts)
    (hadv : AdvMicro durs R ts)
    (hlee : LeewayTime durs ts (winOfTiming (calculateLiveParams now ref o)))
    (hhalf : HalfSeg durs sd) :
    let w := winOfTiming (calculateLiveParams now ref o)
    let l := expand (timelineLive durs R ts (tcFirst w ts) w.tsbd fuel)
    ∀ i (hi : i < l.length), ((l[i]).1 + (l[i]).2) * 1000000 ≤ (w.E : Int) * ts →
      ∃ m o' k, liveIndex conv durs ts sd sn R w (.time (l[i]).1.toNat) = .ok m o' k := by
  have hw := window_from_timing now ref o h
  exact C01_time_partial conv durs ts sd sn R _ fuel hn hR hts hsd
    (by unfold winOfTiming; dsimp only; omega) hconv hadv hlee hhalf

namespace Roundtrip
open DashLive.LiveTiming

/-- **URL round trip of the live window.**  The manifest writes its *resolved*
availabilityStartTime and (clamped) timeShiftBufferDepth into every media URL
(manifest_context.py:292-295); a media request carrying them, evaluated at the same
instant, rebuilds exactly the same availabilityStartTime, elapsedTime,
timeShiftBufferDepth and firstAvailableTime – whatever the original options were
(symbolic start, absent/zero/negative depth, young stream …). -/
theorem url_roundtrip_timing (now : Int) (ref : Ref) (o : Options) (h : Accepted now o) :
    let lt := calculateLiveParams now ref o
    let o' : Options := { o with start := .explicit lt.availabilityStartTime lt.utcOffsetMin,
                                 depth := some lt.timeShiftBufferDepth }
    (calculateLiveParams now ref o').availabilityStartTime = lt.availabilityStartTime ∧
    (calculateLiveParams now ref o').elapsedTime = lt.elapsedTime ∧
    (calculateLiveParams now ref o').timeShiftBufferDepth = lt.timeShiftBufferDepth ∧
    (calculateLiveParams now ref o').firstAvailableTime = lt.firstAvailableTime ∧
    (calculateLiveParams now ref o').leeway = lt.leeway := by
  intro lt o'
  have c := h.core ref
  obtain ⟨b1, b2⟩ := calc_explicit_whole ref (o := o') rfl c.ast_whole c.ast_lt
  rw [← c.elapsed_eq] at b2
  -- same age, and clamping the clamped depth again changes nothing
  have b3 : (calculateLiveParams now ref o').timeShiftBufferDepth = lt.timeShiftBufferDepth := by
    rw [calc_tsbd, b2]
    exact clampDepth_idem _ _ c.elapsed_pos (initialDepth_pos o.depth)
  exact ⟨b1, b2, b3, by rw [calc_fat, b2, b3]; rfl, rfl⟩

end Roundtrip

theorem lookup_of_mem {α β : Type} [BEq α] [LawfulBEq α] {l : List (α × β)}
    (hnd : (l.map (·.1)).Nodup) {e : α × β} (he : e ∈ l) : l.lookup e.1 = some e.2 := by
  induction l with
  | nil => cases he
  | cons x xs ih =>
    rw [List.map_cons, List.nodup_cons] at hnd
    rw [List.lookup_cons]
    rcases List.mem_cons.mp he with rfl | he
    · simp
    · have : (e.1 == x.1) = false := by
        simpa using fun h : e.1 = x.1 => hnd.1 (h ▸ List.mem_map_of_mem he)
      rw [this]
      exact ih hnd.2 he

/-- **Patch ≡ full manifest.**  Fetching the PatchLocation of the T₁ manifest at T₂ and
applying its replace operations to the T₁ document yields the same publishTime,
PatchLocation and SegmentTimelines as the full manifest at T₂ – provided both documents
list the same (Period, AdaptationSet) ids, each once.  The patch's originalPublishTime
equals the T₁ publishTime (which is on a whole second – C08 `publish_in_range`) and its
mpdId the MPD id. -/
theorem C09_patch_equiv (d₁ d₂ : Doc) (hid : d₁.mpdId = d₂.mpdId)
    (hkeys : d₁.timelines.map (·.1) = d₂.timelines.map (·.1))
    (hnd : (d₂.timelines.map (·.1)).Nodup)
    (hsec : d₁.publishTime % 1000000 = 0) :
    let p := servePatch d₂ (publishSeconds d₁)
    (applyPatch p d₁).publishTime = d₂.publishTime ∧
    (applyPatch p d₁).patchLocation = d₂.patchLocation ∧
    (applyPatch p d₁).timelines = d₂.timelines ∧
    p.originalPublishTime = d₁.publishTime ∧ p.mpdId = d₁.mpdId := by
  simp only [servePatch, applyPatch, publishSeconds]
  refine ⟨trivial, trivial, ?_, by omega, hid.symm⟩
  -- entry `i` of d₁ has the key of entry `i` of d₂, which the lookup finds (each key occurs once)
  refine List.ext_getElem (by simpa using congrArg List.length hkeys) fun i h1 h2 => ?_
  have hk := List.getElem_of_eq hkeys (show i < (d₁.timelines.map (·.1)).length by simpa using h1)
  rw [List.getElem_map, List.getElem_map] at hk
  rw [List.getElem_map]
  unfold replaceTl
  rw [hk, lookup_of_mem hnd (List.getElem_mem h2)]

example : AdvPositive [240, 240, 240] 720 := by unfold AdvPositive; decide

/-- young stream with 1-second segments: as the clock goes from E = 1.9 s to 2.1 s the
clamped buffer depth jumps from 1 s to 2 s, firstAvailableTime drops from 0.9 s to 0.1 s
and the first listed position moves *back* from 1 to 0 (excluded by the hypothesis of
`C09_window_start_forward`; finding "young-stream window") -/
example : index [240, 240, 240] 720 (tcFirst ⟨1900000, 1, 0⟩ 240) = 1 ∧
    index [240, 240, 240] 720 (tcFirst ⟨2100000, 2, 0⟩ 240) = 0 := by decide

end DashLive.Segments
