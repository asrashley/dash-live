import DashLive.Lemmas.Xml
import DashLive.Lemmas.XmlLex
import DashLive.Gen.TemplateSites
/-!
# C05 – every manifest response is well-formed, structurally valid DASH
## (the escaping / lexical layer and the interpolation-site table)

The `…_inert` theorems hold for every stored or requested string `s`, every template
text `pre` before the interpolation site and every `post` after it (no bound on lengths,
any Unicode scalar values): the escaped string, written into character data or into a
single- or double-quoted attribute value, leaves the token structure of the whole document
– every start, end and empty tag, every attribute name, every comment, PI and CDATA
section, and whether the document lexes at all – what it is with nothing written there.
`xmlSafe` serves the `.mpd` templates, Jinja's autoescaping the `.xml` templates.

`InText pre` / `InAttr q pre` do not restrict the property: they *define* "the site is in
character data / in a value quoted with q" (decidable; the generated table records which
holds per site and the `site_table` channel checks that against rendered output).  The
examples at the end show that they are satisfiable and that the statement fails without
them, without escaping, and with `xmlSafe` as it was before commit 2a0f3a5.

Not covered: the structural MPD rules of C05 (required attributes, unique ids, no empty
AdaptationSet, URL-template identifiers) are properties of the Jinja templates, whose
rendering engine is not modelled; they are decided by exploration through the real
application (harness/props/c05.py).
-/
namespace DashLive.Xml
open DashLive.Gen.TemplateSites DashLive.IsoText

theorem escape_text_inert (pre s post : Text) (h : InText pre) :
    skeleton (pre ++ xmlSafe s ++ post) = skeleton (pre ++ post) :=
  (harmless_xmlSafe s).skeleton_insert h.inData

theorem escape_attr_inert (q : Char) (hq : q = '"' ∨ q = '\'') (pre s post : Text) (h : InAttr q pre) :
    skeleton (pre ++ xmlSafe s ++ post) = skeleton (pre ++ post) :=
  (harmless_xmlSafe s).skeleton_insert (h.inData hq)

theorem autoescape_text_inert (pre s post : Text) (h : InText pre) :
    skeleton (pre ++ autoEscape s ++ post) = skeleton (pre ++ post) :=
  (harmless_autoEscape s).skeleton_insert h.inData

theorem autoescape_attr_inert (q : Char) (hq : q = '"' ∨ q = '\'') (pre s post : Text) (h : InAttr q pre) :
    skeleton (pre ++ autoEscape s ++ post) = skeleton (pre ++ post) :=
  (harmless_autoEscape s).skeleton_insert (h.inData hq)

theorem escape_keeps_nesting (pre s post : Text) (h : InText pre ∨ InAttr '"' pre ∨ InAttr '\'' pre) :
    (skeleton (pre ++ xmlSafe s ++ post)).map wellNested = (skeleton (pre ++ post)).map wellNested :=
  congrArg _ ((harmless_xmlSafe s).skeleton_insert (inData_of_ctx h))

theorem escape_no_delimiter (s : Text) :
    ∀ c ∈ xmlSafe s, c ≠ '<' ∧ c ≠ '>' ∧ c ≠ '"' ∧ c ≠ '\'' := by
  rw [xmlSafe_eq]
  intro c hc
  obtain ⟨x, _, hx⟩ := List.mem_flatMap.mp hc
  refine escChar_cases (P := fun e => ∀ c ∈ e, c ≠ '<' ∧ c ≠ '>' ∧ c ≠ '"' ∧ c ≠ '\'')
    (fun _ => IsRef.no_delimiter) ?_ x c hx
  intro y hy hgt c hc
  obtain ⟨hlt, -, hdq, hsq⟩ := isPlain_iff.mp hy
  rw [List.mem_singleton.mp hc]
  exact ⟨hlt, hgt, hdq, hsq⟩

/-- Over the table generated from the templates of the current tree: every site
classified *untrusted string* is in character data or in a quoted attribute value and is
escaped exactly once (by a final `xmlSafe`, or by autoescaping with nothing marked `safe`);
every site in any other position writes code-fixed text. -/
theorem sites_escaped : sites.all (fun s => s.adequate && s.placed) = true := by decide +kernel

/-- the table is not trivially adequate -/
theorem sites_nontrivial :
    (sites.any fun s => s.kind = .untrusted && s.ctx = .text && !s.autoescape) = true ∧
    (sites.any fun s => s.kind = .untrusted && s.ctx = .attrDq && !s.autoescape) = true ∧
    (sites.any fun s => s.kind = .untrusted && s.ctx = .text && s.autoescape) = true ∧
    (sites.any fun s => s.kind = .untrusted && s.ctx = .attrDq && s.autoescape) = true := by
  decide +kernel

theorem site_escape_inert (st : Site) (pre v post : Text)
    (h : InText pre ∨ InAttr '"' pre ∨ InAttr '\'' pre) :
    skeleton (pre ++ st.escape v ++ post) = skeleton (pre ++ post) := by
  have he : Harmless (st.escape v) := by
    unfold Site.escape
    split
    · exact harmless_xmlSafe v
    · exact harmless_autoEscape v
  exact he.skeleton_insert (inData_of_ctx h)

/-- the context a table row claims, as a predicate on the text before the site -/
def Site.InCtx (st : Site) (pre : Text) : Prop :=
  match st.ctx with
  | .text => InText pre
  | .attrDq => InAttr '"' pre
  | .attrSq => InAttr '\'' pre
  | .other => False

/-- the table and the `…_inert` theorems put together: a row that writes an untrusted string escapes it
once, and in the context the row records the token structure of the document does not depend on the string -/
theorem site_inert : ∀ st ∈ sites, st.kind = .untrusted →
    st.escapes = 1 ∧
    ∀ pre v post, st.InCtx pre → skeleton (pre ++ st.escape v ++ post) = skeleton (pre ++ post) := by
  intro st hst hk
  have h := List.all_eq_true.mp sites_escaped st hst
  simp only [Site.adequate, hk, bne_self_eq_false, Bool.false_or, Bool.and_eq_true, decide_eq_true_eq] at h
  obtain ⟨⟨⟨⟨-, hesc⟩, -⟩, -⟩, -⟩ := h
  refine ⟨hesc, ?_⟩
  intro pre v post hc
  apply site_escape_inert
  unfold Site.InCtx at hc
  split at hc
  · exact Or.inl hc
  · exact Or.inr (Or.inl hc)
  · exact Or.inr (Or.inr hc)
  · exact absurd hc id

/-- `'%d'` of a non-negative integer is in the lexical space of xs:unsignedInt / xs:unsignedLong -/
theorem uint_lexical (n : Nat) : isXsUnsigned (dec n) = true := allDigits_dec_eq n

/-- `v` in µs, `ms` any admissible result of the float front end of `toIsoDuration` -/
theorem duration_lexical (v ms : Nat) (h : Admissible (v % 1000000) ms) :
    isXsDuration (isoDurationBack (v / 1000000) ms) = true :=
  isXsDuration_back _ _ (admissible_le_1000 (Nat.mod_lt v (by decide)) h)

theorem duration_lexical_exact (v : Nat) : isXsDuration (toIsoDuration v) = true :=
  duration_lexical v _ (roundMs_admissible _)

/-- Partial: `offsetXsd` (no UTC offset, or at most ±14:00, what xs:dateTime can express)
fails for the accepted request `start=…+15:00` – ledger entry D18, last `example`. -/
theorem datetime_lexical_partial (d : DateTime) (hv : d.valid = true) (ho : offsetXsd d.offset = true) :
    isXsDateTime (toIsoDateTime d) = true := by
  rw [toIsoDateTime_eq d (offsetOk_of_offsetXsd ho)]
  exact isXsDateTime_render d hv ho

/-- "non-negative": the recognisers accept no sign – a negative xs:duration starts with
`-`, a negative integer or year with `-` -/
theorem lexical_nonneg (t : Text) :
    (isXsDuration t = true → t.head? = some 'P') ∧
    (isXsUnsigned t = true → ∀ c ∈ t, c.isDigit = true) ∧
    (isXsDateTime t = true → ∀ c ∈ t.take 4, c.isDigit = true) := by
  refine ⟨?_, ?_, ?_⟩
  · intro h
    unfold isXsDuration at h
    split at h
    · rfl
    · cases h
  · intro h c hc
    simp only [isXsUnsigned, allDigits, Bool.and_eq_true, List.all_eq_true] at h
    exact h.2 c hc
  · intro h c hc
    simp only [isXsDateTime, Bool.and_eq_true, List.all_eq_true] at h
    exact h.1.2 c hc

/-- text with none of `<`, `&`, `"`, `'` needs no escaping; that the unescaped sites write such
text is shown for `'%d'` only (`uint_plain`), not for durations and date-times -/
theorem typed_values_inert (pre e post : Text) (he : ∀ c ∈ e, isPlain c = true)
    (h : InText pre ∨ InAttr '"' pre ∨ InAttr '\'' pre) :
    skeleton (pre ++ e ++ post) = skeleton (pre ++ post) :=
  (harmless_plainText he).skeleton_insert (inData_of_ctx h)

/-- digits are plain, so `uint` sites are covered by `typed_values_inert` -/
theorem uint_plain (n : Nat) : ∀ c ∈ dec n, isPlain c = true :=
  fun c hc => isPlain_of_isDigit (allDigits_dec n c hc)

/-! Non-vacuity, and what happens outside the hypotheses: closed statements, evaluated by the
kernel.  `decide +kernel` proves them as they stand, but
evaluating `String.toList` on a literal decodes UTF-8 by well-founded recursion: about 12 000
heartbeats per character and kernel pass, several times that in the elaborator (`decide`, `rfl`).
Up to a dozen characters of literal in a statement are left to `decide +kernel`; beyond that, as
here, each `"…".toList` is first rewritten to the list of its characters (the kernel reads a
literal as `String.ofList […]`, so `String.toList_ofList` applies). -/

/-- a hostile title inside `<Title>` – the hypotheses hold and the structure is that of the empty title -/
example : InText "<MPD><Title>".toList := by
  repeat rw [String.toList_ofList]
  decide +kernel
example : skeleton ("<MPD><Title>".toList ++ xmlSafe "</Title><&>\"' ]]>".toList ++ "</Title></MPD>".toList)
    = skeleton "<MPD><Title></Title></MPD>".toList := by
  repeat rw [String.toList_ofList]
  decide +kernel
example : skeleton "<MPD><Title></Title></MPD>".toList
    = some [.open_ "MPD".toList [], .open_ "Title".toList [], .close "Title".toList, .close "MPD".toList] := by
  repeat rw [String.toList_ofList]
  decide +kernel
example : xmlSafe "<&>\"'".toList = "&lt;&amp;&gt;&quot;&apos;".toList := by
  repeat rw [String.toList_ofList]
  decide +kernel
example : autoEscape "<&>\"'".toList = "&lt;&amp;&gt;&#34;&#39;".toList := by
  repeat rw [String.toList_ofList]
  decide +kernel
/-- the value is there, as character data -/
example : tags ("<T>".toList ++ xmlSafe "a<b".toList ++ "</T>".toList)
    = some [.open_ "T".toList [], .text "a&lt;b".toList, .close "T".toList] := by
  repeat rw [String.toList_ofList]
  decide +kernel
/-- both attribute contexts; a value that would close the quote and the tag stays inside the one attribute -/
example : InAttr '"' "<Period id=\"".toList := by
  repeat rw [String.toList_ofList]
  decide +kernel
example : InAttr '\'' "<replace sel='".toList := by
  repeat rw [String.toList_ofList]
  decide +kernel
example : skeleton ("<Period id=\"".toList ++ xmlSafe "\"><x y=\"".toList ++ "\"/>".toList)
    = some [.empty "Period".toList [("id".toList, [])]] := by
  repeat rw [String.toList_ofList]
  decide +kernel

/-- without escaping the same strings do change or break the structure -/
example : skeleton ("<MPD><Title>".toList ++ "<&>".toList ++ "</Title></MPD>".toList) = none := by
  repeat rw [String.toList_ofList]
  decide +kernel
example : skeleton ("<MPD><Title>".toList ++ "</Title><Title>".toList ++ "</Title></MPD>".toList)
    ≠ skeleton "<MPD><Title></Title></MPD>".toList := by
  repeat rw [String.toList_ofList]
  decide +kernel
/-- `xmlSafe` as it was before commit 2a0f3a5 (only `&`): not inert -/
example : skeleton ("<MPD><Location>".toList ++ xmlSafeOld "?x=<y>".toList ++ "</Location></MPD>".toList)
    ≠ skeleton "<MPD><Location></Location></MPD>".toList := by
  repeat rw [String.toList_ofList]
  decide +kernel
example : skeleton ("<UTCTiming value=\"".toList ++ xmlSafeOld "a\" b=\"".toList ++ "\"/>".toList)
    ≠ skeleton "<UTCTiming value=\"\"/>".toList := by
  repeat rw [String.toList_ofList]
  decide +kernel
/-- outside the context hypotheses the statement is false: inside a tag but outside a quoted
value the escaped `b=""` breaks a document that lexes without it (`&` is no attribute value),
and the raw `b='1'` adds an attribute -/
example : ¬ InText "<a ".toList := by
  repeat rw [String.toList_ofList]
  decide +kernel
example : skeleton ("<a ".toList ++ xmlSafe "b=\"\"".toList ++ ">".toList) = none := by
  repeat rw [String.toList_ofList]
  decide +kernel
example : skeleton ("<a ".toList ++ "b='1'".toList ++ ">".toList) ≠ skeleton "<a >".toList := by
  repeat rw [String.toList_ofList]
  decide +kernel

/-- typed values: concrete renderings are accepted, signed or malformed ones are not -/
example : isXsDuration (toIsoDuration 3725050000) = true ∧ toIsoDuration 3725050000 = "PT1H2M5.05S".toList := by
  repeat rw [String.toList_ofList]
  decide +kernel
example : isXsDuration "PT-1H59M55S".toList = false ∧ isXsDuration "-PT5S".toList = false
    ∧ isXsDuration "PT".toList = false ∧ isXsDuration "P".toList = false := by
  repeat rw [String.toList_ofList]
  decide +kernel
example : isXsUnsigned "".toList = false ∧ isXsUnsigned "-1".toList = false ∧ isXsUnsigned "%d".toList = false
    ∧ isXsUnsigned (dec 0) = true := by
  repeat rw [String.toList_ofList]
  decide +kernel
example : isXsDateTime "2024-05-06T07:08:09Z".toList = true
    ∧ isXsDateTime "2024-05-06T07:08:09.250000+05:30".toList = true
    ∧ isXsDateTime "2024-13-06T07:08:09Z".toList = false
    ∧ isXsDateTime "-024-05-06T07:08:09Z".toList = false := by
  repeat rw [String.toList_ofList]
  decide +kernel
/-- non-vacuity of `datetime_lexical_partial` … -/
example : (DateTime.mk 2024 2 29 23 59 59 999999 (some (-840))).valid = true
    ∧ offsetXsd (some (-840)) = true := by decide +kernel
/-- … and the excluded point: `start=2024-01-01T00:00:00+15:00` is accepted by the option
parser, `to_iso_datetime` writes the offset as it is, and `+15:00` is not an xs:dateTime
time zone (ledger entry D18) -/
example : offsetXsd (some 900) = false
    ∧ toIsoDateTime (DateTime.mk 2024 1 1 0 0 0 0 (some 900)) = "2024-01-01T00:00:00+15:00".toList
    ∧ isXsDateTime (toIsoDateTime (DateTime.mk 2024 1 1 0 0 0 0 (some 900))) = false := by
  repeat rw [String.toList_ofList]
  decide +kernel

end DashLive.Xml
