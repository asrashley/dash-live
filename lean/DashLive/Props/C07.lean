import DashLive.Lemmas.Options
import DashLive.Gen.Options
import DashLive.Gen.Manifests
/-!
# C07 – options given to a manifest reach its media requests with the same meaning

Property theorems, and the composition lemma `media_side_parse` two of them share (helper lemmas:
`Lemmas/Options.lean`; model: `Model/Options.lean`;
registry table: `Gen/Options.lean`, regenerated from the imported `OptionsRepository` on every run).

Quantification: every registry table whose names need no escaping and are pairwise different
(`TableOk`, discharged for the *generated* table by `decide +kernel`), every codec kind, every
canonical value of the kind (`Canonical` = the image of the kind's `from_string`), every byte
string as text, every set of options on a request, every stream default, every media type
mask, every set of overrides written by `calculate_cgi_parameters`.
-/
namespace DashLive.Options

section
variable {DT : Type} (C : DTCodec DT)

theorem codec_roundtrip_bool (b : Bool) :
    fromString C .bool (cgiText (toText C .bool (.bool b))) = .ok (.bool b) := by
  cases b <;> rfl

theorem codec_roundtrip_intOrNone (o : Option Int) :
    fromString C .intOrNone (cgiText (toText C .intOrNone (match o with | some z => .int z | none => .none))) =
      .ok (match o with | some z => .int z | none => .none) := by
  cases o with
  | none => rfl
  | some z => simp [fromString, toText, cgiText, intOrNone_intDec, Except.map]

/-- floats: every non-negative multiple of 0.1 (given as its number of tenths) and `None` -/
theorem codec_roundtrip_floatOrNone (o : Option Nat) :
    fromString C .floatOrNone (cgiText (toText C .floatOrNone (match o with | some t => .tenths t | none => .none))) =
      .ok (match o with | some t => .tenths t | none => .none) := by
  cases o with
  | none => rfl
  | some t =>
    have : isNoneCI (tenthsDec t) = false := isNoneCI_false_of_mem (c := 46) (by simp [tenthsDec]) (by decide)
    simp [fromString, toText, cgiText, isNoneCS_false this, pyTenths_tenthsDec]

/-- strings: every text except the spellings of `''`/`none`, which mean `None` -/
theorem codec_roundtrip_strOrNone (s : Bytes) (h : isNoneCI s = false) :
    fromString C .strOrNone (cgiText (toText C .strOrNone (.str s))) = .ok (.str s) ∧
    fromString C .strOrNone (cgiText (toText C .strOrNone .none)) = .ok (.none : Val DT) :=
  ⟨by simp [fromString, toText, cgiText, h], rfl⟩

theorem codec_roundtrip_strRaw (s : Bytes) :
    fromString C .strRaw (cgiText (toText C .strRaw (.str s))) = .ok (.str s) := rfl

/-- comma lists: items without a comma that are not spelled `''`/`none` -/
theorem codec_roundtrip_listJoin (l : List Bytes) (h : ∀ i ∈ l, (44 : UInt8) ∉ i ∧ isNoneCI i = false) :
    fromString C .listJoin (cgiText (toText C .listJoin (.list l))) = .ok (.list l) := by
  simp only [fromString, toText, cgiText, Option.getD_some]
  match l, h with
  | [], _ => rfl
  | [p], h => simp [joinWith, (h p (by simp)).2, splitOn_noSep (h p (by simp)).1]
  | p :: q :: r, h =>
    -- at least two items: the text contains a comma, so it does not read as `None`
    have hn : isNoneCI (joinWith 44 (p :: q :: r)) = false :=
      isNoneCI_false_of_mem (c := 44) (by simp [joinWith]) (by decide)
    simp only [hn, Bool.false_eq_true, if_false, splitOn_joinWith 44 _ (by simp) fun i hi => (h i hi).1]
    rw [List.filter_eq_self.mpr fun i hi => by simp [(h i hi).2]]

/-- DRM selections of any length, any order, any location subsets (non-empty): the same
systems with the same locations come back; unless the text is the shorthand `all`, the very same list -/
theorem codec_roundtrip_drmSelection (v : List (Bytes × LocSet)) (h : CanonDrm v) :
    ∃ r, fromString C .drmSelection (cgiText (toText C .drmSelection (.drm v))) = .ok (.drm r) ∧
      (∀ e, e ∈ r ↔ e ∈ v) ∧ (isAllDrm (v.map drmItemText) = false → r = v) := by
  simp only [fromString, toText, cgiText, Option.getD_some, drmToString]
  by_cases ha : isAllDrm (v.map drmItemText) = true
  · -- the shorthand `all` lists the systems in `DrmSystem.values()` order
    rw [if_pos ha]
    exact ⟨_, rfl, isAllDrm_spec v h ha, fun hf => by rw [ha] at hf; cases hf⟩
  · rw [if_neg ha, drm_roundtrip_list v h]
    exact ⟨v, rfl, fun _ => Iff.rfl, fun _ => rfl⟩

/-- licence URLs: every text (any reserved character, `%`, `+`, `&`, `#`, non-ASCII) -/
theorem codec_roundtrip_quotedUrl (s : Bytes) (h : isNoneCI s = false) :
    fromString C .quotedUrl (cgiText (toText C .quotedUrl (.str s))) = .ok (.str s) ∧
    fromString C .quotedUrl (cgiText (toText C .quotedUrl .none)) = .ok (.none : Val DT) := by
  refine ⟨?_, rfl⟩
  simp [fromString, toText, cgiText, isNoneCI_quotePlus safeNone_ok h, unquotePlus_quotePlus safeNone_ok]

/-- availabilityStartTime: the five keywords, `None`, and every date-time – the last under the
date-time text laws (`hC.roundtrip` is C19's `∀ d, parse (render d) = d`) -/
theorem codec_roundtrip_astDateTime (hC : DtCodecLaws C) :
    (∀ s ∈ specialAst, fromString C .astDateTime (cgiText (toText C .astDateTime (.str s))) = .ok (.str s)) ∧
    fromString C .astDateTime (cgiText (toText C .astDateTime .none)) = .ok (.none : Val DT) ∧
    (∀ d, fromString C .astDateTime (cgiText (toText C .astDateTime (.dt d))) = .ok (.dt d)) := by
  refine ⟨fun s h => ?_, rfl, fun d => ?_⟩
  · simp [fromString, toText, cgiText, h]
  · -- rendered text starts with a digit: it is none of the keywords
    simp [fromString, toText, cgiText, specialAst_not_render C hC d, parseDT_render C hC d, Except.map]

theorem codec_roundtrip_dtOrNone (hC : DtCodecLaws C) :
    fromString C .dtOrNone (cgiText (toText C .dtOrNone .none)) = .ok (.none : Val DT) ∧
    (∀ d, fromString C .dtOrNone (cgiText (toText C .dtOrNone (.dt d))) = .ok (.dt d)) := by
  refine ⟨rfl, fun d => ?_⟩
  simp [fromString, toText, cgiText, isNoneCS_false (isNoneCI_render C hC d), parseDT_render C hC d, Except.map]

/-- error lists of any length: any integer code, position a segment number, a time or nothing -/
theorem codec_roundtrip_errorList (hC : DtCodecLaws C) (l : List (Int × Pos DT)) :
    fromString C .errorList (cgiText (toText C .errorList (.errs l))) = .ok (.errs l) :=
  errorList_roundtrip C l (.inl hC)

theorem codec_roundtrip_intOrDefault (k z : Int) :
    fromString C (.intOrDefault k) (cgiText (toText C (.intOrDefault k) (.int z))) = .ok (.int z) := by
  simp [fromString, toText, cgiText, intOrNone_intDec, Except.map]

theorem codec_roundtrip_posIntOrDefault (k z : Int) (h : 1 ≤ z) :
    fromString C (.posIntOrDefault k) (cgiText (toText C (.posIntOrDefault k) (.int z))) = .ok (.int z) := by
  have : ¬ z < 1 := by omega
  simp [fromString, toText, cgiText, intOrNone_intDec, this]

theorem codec_roundtrip (hC : DtCodecLaws C) (k : Kind) (v : Val DT) (h : Canonical k v) :
    ∃ v', fromString C k (cgiText (toText C k v)) = .ok v' ∧ ValEquiv v' v := by
  cases k <;> cases v <;> simp only [Canonical] at h <;> try exact h.elim
  case drmSelection.drm l =>
    obtain ⟨r, hr, he, _⟩ := codec_roundtrip_drmSelection C l h
    exact ⟨_, hr, he⟩
  -- every other value comes back itself
  all_goals refine ⟨_, ?_, .refl _⟩
  case strOrNone.none | strRaw.str | quotedUrl.none | astDateTime.none | dtOrNone.none => rfl
  case bool.bool b => exact codec_roundtrip_bool C b
  case intOrNone.none => exact codec_roundtrip_intOrNone C none
  case intOrNone.int z => exact codec_roundtrip_intOrNone C (some z)
  case floatOrNone.none => exact codec_roundtrip_floatOrNone C none
  case floatOrNone.tenths t => exact codec_roundtrip_floatOrNone C (some t)
  case strOrNone.str s => exact (codec_roundtrip_strOrNone C s h).1
  case listJoin.list l => exact codec_roundtrip_listJoin C l h
  case quotedUrl.str s => exact (codec_roundtrip_quotedUrl C s h).1
  case astDateTime.str s => exact (codec_roundtrip_astDateTime C hC).1 s h
  case astDateTime.dt d => exact (codec_roundtrip_astDateTime C hC).2.2 d
  case dtOrNone.dt d => exact (codec_roundtrip_dtOrNone C hC).2 d
  case errorList.errs l => exact codec_roundtrip_errorList C hC l
  case intOrDefault.int k z => exact codec_roundtrip_intOrDefault C k z
  case posIntOrDefault.int k z => exact codec_roundtrip_posIntOrDefault C k z h

end

/-- `unquote_plus(quote_plus(t, safe=':,')) = t` for every byte string `t` -/
theorem transport_id (t : Bytes) : unquotePlus (quotePlus safeQuery t) = t :=
  unquotePlus_quotePlus safeQuery_ok t

/-- a whole dictionary: what Werkzeug's `request.args` holds for the query `dict_to_cgi_params`
wrote is the dictionary itself (names as bytes, `None` as the empty text), for any URL path
without `?`/`#` and any texts -/
theorem transport_query (path : Bytes) (hp : (35 : UInt8) ∉ path ∧ (63 : UInt8) ∉ path)
    (P : List (String × Option Bytes)) (hk : ∀ p ∈ P, KeyOk p.1) :
    parseQsl (queryOf (path ++ renderQuery P)) =
      (P.mergeSort keyLe).map (fun p => (ascii p.1, cgiText p.2)) := by
  rw [queryOf_render path hp P hk]
  exact parseQsl_render _ (fun p h => hk p ((List.mergeSort_perm P keyLe).mem_iff.mp h))

/-- D12 (repair b9109f8): without escaping, the `+` of a UTC offset does *not* survive – the text the
media handler sees is `…00 05:30` -/
theorem transport_raw_loses_plus (a b : Bytes) (hb : ∀ c ∈ b, c ≠ 43 ∧ c ≠ 37) (ha : ∀ c ∈ a, c ≠ 43 ∧ c ≠ 37) :
    unquotePlus (a ++ 43 :: b) = a ++ 32 :: b ∧ unquotePlus (a ++ 43 :: b) ≠ a ++ 43 :: b := by
  have h1 : unquotePlus (a ++ 43 :: b) = a ++ 32 :: b := by
    rw [unquotePlus_append a _ ha, unquotePlus_plus, unquotePlus_id b hb]
  refine ⟨h1, ?_⟩
  rw [h1]
  intro e
  have := List.append_cancel_left e
  simp at this

section
variable {DT : Type} [DecidableEq DT] (C : DTCodec DT)

/-- an option whose usage mask has a bit of the media type, that is present, not excluded and not
at its default is in the parameter set of that media type, with its `to_string` text -/
theorem forwarding_complete (tbl : List OptionRow) (use : Nat) (exclude : List String)
    (dflt o : Opts DT) (i : Nat) (r : OptionRow) (v : Val DT)
    (hr : tbl[i]? = some r) (ho : o i = some v) (hu : r.usage &&& use ≠ 0)
    (hx : exclude.contains r.fieldName = false) (hd : dflt i ≠ some v) :
    (r.cgi, toText C r.kind v) ∈ genParams C tbl (some use) exclude true dflt o :=
  (mem_genParams C).mpr ⟨i, r, v, hr, ho, hx, fun _ => hd, fun _ e => Option.some.inj e ▸ hu, rfl⟩

/-- nothing else is: an entry of the parameter set of a media type belongs to a registered option
with a bit of that type, holding a non-default value -/
theorem forwarding_minimal (tbl : List OptionRow) (use : Nat) (exclude : List String)
    (dflt o : Opts DT) (p : String × Option Bytes)
    (h : p ∈ genParams C tbl (some use) exclude true dflt o) :
    ∃ i : Nat, ∃ r : OptionRow, ∃ v, tbl[i]? = some r ∧ r.cgi = p.1 ∧ r.usage &&& use ≠ 0 ∧
      exclude.contains r.fieldName = false ∧ o i = some v ∧ dflt i ≠ some v ∧
      p.2 = toText C r.kind v := by
  obtain ⟨i, r, v, hr, ho, hx, hd, hu, rfl⟩ := (mem_genParams C).mp h
  exact ⟨i, r, v, hr, rfl, hu use rfl, hx, ho, hd rfl, rfl⟩

theorem media_side_parse (hC : DtCodecLaws C) (tbl : List OptionRow) (ht : TableOk tbl)
    (use : Nat) (dflt : Nat → Val DT) (o : Opts DT)
    (ovs : List (String × Bytes)) (hovs : (ovs.map Prod.fst).Nodup)
    (path : Bytes) (hp : (35 : UInt8) ∉ path ∧ (63 : UInt8) ∉ path)
    (hcanon : ∀ i : Nat, ∀ r : OptionRow, ∀ v, tbl[i]? = some r → o i = some v →
      r.usage &&& use ≠ 0 → mediaExclude.contains r.fieldName = false → v ≠ dflt i →
      r.cgi ∉ ovs.map Prod.fst → Canonical r.kind v)
    (hov : ∀ k t, (k, t) ∈ ovs → ∃ i : Nat, ∃ r : OptionRow, ∃ w, tbl[i]? = some r ∧ r.cgi = k ∧
      fromString C r.kind t = .ok w) :
    ∃ res, mediaOptions C tbl dflt
        (path ++ mediaQuery C tbl use (fun i => some (dflt i)) o ovs) = .ok res ∧
      ∀ i : Nat, ∀ r : OptionRow, tbl[i]? = some r →
        (∀ t, (r.cgi, t) ∈ ovs → fromString C r.kind t = .ok (res i)) ∧
        (r.cgi ∉ ovs.map Prod.fst →
          ((o i = none ∨ o i = some (dflt i) ∨ r.usage &&& use = 0 ∨
            mediaExclude.contains r.fieldName = true) → res i = dflt i) ∧
          ∀ v, o i = some v → v ≠ dflt i → r.usage &&& use ≠ 0 →
            mediaExclude.contains r.fieldName = false →
            fromString C r.kind (cgiText (toText C r.kind v)) = .ok (res i)) := by
  -- every written parameter names a registered option whose `from_string` accepts the text
  have hparse : ∀ p ∈ applyOverrides (genParams C tbl (some use) mediaExclude true (fun i => some (dflt i)) o) ovs,
      ∃ i : Nat, ∃ r : OptionRow, ∃ v, tbl[i]? = some r ∧ r.cgi = p.1 ∧
        fromString C r.kind (cgiText p.2) = .ok v := by
    intro p hpP
    rcases (mem_applyOverrides hovs).mp hpP with ⟨hpG, hnov⟩ | ⟨t, hto, hp2⟩
    · obtain ⟨i, r, v, hr, hc, hu, hx, ho, hd, hp2⟩ := forwarding_minimal C _ _ _ _ _ _ hpG
      obtain ⟨v', hv', _⟩ := codec_roundtrip C hC r.kind v
        (hcanon i r v hr ho hu hx (fun e => hd (e ▸ rfl)) (hc ▸ hnov))
      exact ⟨i, r, v', hr, hc, hp2 ▸ hv'⟩
    · obtain ⟨i, r, w, hr, hc, hw⟩ := hov p.1 t hto
      exact ⟨i, r, w, hr, hc, hp2 ▸ hw⟩
  -- the handler reads the written parameters themselves (`transport_query`), in sorted order
  obtain ⟨res, hres, hdef, hval⟩ := media_parse_of_params C tbl ht dflt _ _
    (transport_query path hp _ fun p h => by
      obtain ⟨_, r, _, hr, hc, _⟩ := hparse p h
      exact hc ▸ ht.1 r (List.mem_of_getElem? hr))
    (((List.mergeSort_perm _ keyLe).map Prod.fst).nodup_iff.mpr
      (applyOverrides_keys_nodup ovs (genFrom_keys_nodup C tbl 0 (table_cgi_nodup ht))))
    fun p h => hparse p (List.mem_mergeSort.mp h)
  simp only [List.mem_mergeSort] at hdef hval
  refine ⟨res, hres, fun i r hr => ⟨fun t hto => ?_, fun hnov => ⟨fun hcase => ?_, fun v ho hd hu hx => ?_⟩⟩⟩
  · exact hval i r (some t) hr ((mem_applyOverrides hovs).mpr (Or.inr ⟨t, hto, rfl⟩))
  · -- a parameter named like row i is no override, so it is the generated entry of row i
    refine hdef i r hr fun t htP => ?_
    rcases (mem_applyOverrides hovs).mp htP with ⟨htG, _⟩ | ⟨t', h1, _⟩
    · obtain ⟨j, s, v, hs, hc, hu, hx, ho, hd, _⟩ := forwarding_minimal C _ _ _ _ _ _ htG
      obtain ⟨rfl, rfl⟩ := row_unique ht hs hr (congrArg ascii hc)
      rcases hcase with h | h | h | h
      · rw [h] at ho; cases ho
      · exact hd (h.symm.trans ho)
      · exact hu h
      · rw [h] at hx; cases hx
    · exact hnov (List.mem_map.mpr ⟨(r.cgi, t'), h1, rfl⟩)
  · exact hval i r _ hr ((mem_applyOverrides hovs).mpr (Or.inl ⟨forwarding_complete C tbl use mediaExclude
      _ o i r v hr ho hu hx fun e => hd (Option.some.inj e).symm, hnov⟩))

/-- **manifest options → URL text → the media handler's `calculate_options`.**
For the query string put on the init/media URLs of a media type (mask `use`), with the same
stream defaults `dflt` on both sides and any overrides `ovs` written by
`calculate_cgi_parameters` (`verr`/`aerr`/`terr`/`vcorrupt`):

* the media handler accepts the URL (`.ok`);
* an overridden option gets exactly what its `from_string` makes of the override text;
* every other option with a usage bit of the media type ends with the manifest's value
  (identical; DRM selections as the same set of entries);
* an option without such a bit, absent from the manifest's options, or excluded, is at its default. -/
theorem media_side_same_value (hC : DtCodecLaws C) (tbl : List OptionRow) (ht : TableOk tbl)
    (use : Nat) (dflt : Nat → Val DT) (o : Opts DT)
    (ovs : List (String × Bytes)) (hovs : (ovs.map Prod.fst).Nodup)
    (path : Bytes) (hp : (35 : UInt8) ∉ path ∧ (63 : UInt8) ∉ path)
    (hcanon : ∀ i : Nat, ∀ r : OptionRow, ∀ v, tbl[i]? = some r → o i = some v →
      r.usage &&& use ≠ 0 → mediaExclude.contains r.fieldName = false → v ≠ dflt i →
      r.cgi ∉ ovs.map Prod.fst → Canonical r.kind v)
    (hov : ∀ k t, (k, t) ∈ ovs → ∃ i : Nat, ∃ r : OptionRow, ∃ w, tbl[i]? = some r ∧ r.cgi = k ∧
      fromString C r.kind t = .ok w) :
    ∃ res, mediaOptions C tbl dflt
        (path ++ mediaQuery C tbl use (fun i => some (dflt i)) o ovs) = .ok res ∧
      ∀ i : Nat, ∀ r : OptionRow, tbl[i]? = some r →
        (∀ t, (r.cgi, t) ∈ ovs → fromString C r.kind t = .ok (res i)) ∧
        (r.cgi ∉ ovs.map Prod.fst →
          (∀ v, o i = some v → r.usage &&& use ≠ 0 → mediaExclude.contains r.fieldName = false →
            ValEquiv (res i) v) ∧
          ((o i = none ∨ r.usage &&& use = 0 ∨ mediaExclude.contains r.fieldName = true) →
            res i = dflt i)) := by
  obtain ⟨res, hres, h⟩ := media_side_parse C hC tbl ht use dflt o ovs hovs path hp hcanon hov
  refine ⟨res, hres, fun i r hr => ⟨(h i r hr).1, fun hnov => ?_⟩⟩
  obtain ⟨hdef, hval⟩ := (h i r hr).2 hnov
  constructor
  · intro v ho hu hx
    by_cases hd : v = dflt i
    · -- at its default: not written, the media side has the same default
      rw [hdef (Or.inr (Or.inl (hd ▸ ho))), ← hd]
      exact ValEquiv.refl v
    · obtain ⟨v', hv', heq⟩ := codec_roundtrip C hC r.kind v (hcanon i r v hr ho hu hx hd hnov)
      have h1 := hval v ho hd hu hx
      rw [hv'] at h1
      cases h1
      exact heq
  · exact fun hcase => hdef (hcase.elim Or.inl fun h => Or.inr (Or.inr h))

end

open DashLive.Gen.Options

theorem table_wellformed : TableOk table :=
  tableOk_of_utf8 table (by decide +kernel)

theorem table_field_names_distinct :
    (table.map OptionRow.fieldName).Nodup ∧ (table.map (·.short)).Nodup :=
  ⟨nodup_of_map utf8 (nodup_of_map natKey (by decide +kernel)),
    nodup_of_map utf8 (nodup_of_map natKey (by decide +kernel))⟩

/-- a date-time codec that accepts nothing: defaults do not depend on date-time text -/
def nullCodec : DTCodec Unit := { parse := fun _ => none, render := fun _ => [] }

/-- every option's default text parses (`get_default_options` cannot raise), and the default is a
canonical value of the option's kind -/
def defaultOk (r : OptionRow) : Bool :=
  match defaultVal nullCodec r with
  | .ok v =>
    (match r.kind, v with
     | .bool, .bool _ => true
     | .intOrNone, .none => true
     | .intOrNone, .int _ => true
     | .floatOrNone, .none => true
     | .floatOrNone, .tenths _ => true
     | .strOrNone, .none => true
     | .strOrNone, .str s => !isNoneCI s
     | .strRaw, .str _ => true
     | .listJoin, .list l => l.all (fun i => !i.contains 44 && !isNoneCI i)
     | .drmSelection, .drm l => l.isEmpty
     | .quotedUrl, .none => true
     | .astDateTime, .str s => specialAst.contains s
     | .astDateTime, .none => true
     | .dtOrNone, .none => true
     | .errorList, .errs l => l.isEmpty
     | .intOrDefault k, .int z => z == k
     | .posIntOrDefault k, .int z => z == k && decide (1 ≤ z)
     | _, _ => false)
  | .error _ => false

theorem table_defaults_parse : table.all defaultOk = true := by
  unfold defaultOk defaultVal
  rw [ascii_eq_fast]
  decide +kernel

/-- the options the property names, with the media types they must reach
(VIDEO=2 AUDIO=4 TEXT=8): availability start, buffer depth, leeway, DRM selection and locations,
licence URLs, PlayReady version and PIFF, event selection, bug compatibility, error and corruption
injection with their failure and frame counts -/
def requiredForwarding : List (String × Nat) :=
  [("start", 14), ("depth", 14), ("leeway", 14), ("drm", 14), ("bugs", 14), ("failures", 14),
   ("clearkey__la_url", 6), ("marlin__la_url", 6), ("playready__la_url", 6),
   ("playready__version", 6), ("playready__piff", 6), ("events", 6),
   ("verr", 2), ("vcorrupt", 2), ("frames", 2), ("aerr", 4), ("terr", 8)]

/-- every option the property names has the usage bits of the media types it must reach
(so, by `forwarding_complete`, a non-default value is in their parameter sets) -/
theorem table_forwards_required :
    ∀ q ∈ requiredForwarding, ∃ r ∈ table, r.cgi = q.1 ∧ r.usage &&& q.2 = q.2 := by
  decide +kernel

/-- event schedules: every option of an event generator (prefix `ping`, `scte35`) reaches video and audio -/
theorem table_forwards_event_schedules :
    ∀ r ∈ table, (r.pfx = "ping" ∨ r.pfx = "scte35") → r.usage &&& 6 = 6 := by
  decide +kernel

/-- error/corruption injection is confined to its own media type, manifest errors and player
options reach none -/
theorem table_injection_confined :
    ∀ r ∈ table,
      ((r.cgi = "verr" ∨ r.cgi = "vcorrupt" ∨ r.cgi = "frames") → r.usage &&& 12 = 0) ∧
      (r.cgi = "aerr" → r.usage &&& 10 = 0) ∧ (r.cgi = "terr" → r.usage &&& 6 = 0) ∧
      ((r.cgi = "merr" ∨ r.cgi = "update" ∨ r.cgi = "mode") → r.usage &&& 14 = 0) ∧
      (r.usage &&& 32 ≠ 0 → r.usage &&& 14 = 0) := by
  decide +kernel

/-- the names excluded for every media type do not hide an option that has a media bit -/
theorem table_exclusions_harmless :
    ∀ r ∈ table, r.usage &&& 14 ≠ 0 → ["encrypted", "mode"].contains r.fieldName = false := by
  decide +kernel

/-- the model's constants are the code's: DRM systems, DRM locations, special start values -/
theorem gen_constants_agree :
    drmSystems.map ascii = drmNames ∧ drmLocations.map ascii = locNames.map Prod.fst ∧
    (∀ s, s ∈ DashLive.Gen.Options.specialAst.map ascii ↔ s ∈ DashLive.Options.specialAst) ∧ count = table.length := by
  unfold drmNames locNames DashLive.Options.specialAst
  rw [ascii_eq_fast]
  exact ⟨by decide +kernel, by decide +kernel, fun s => (List.isPerm_iff.mp (by decide +kernel)).mem_iff,
    by decide +kernel⟩

section
variable {DT : Type} (C : DTCodec DT)

/-- the text `calculate_injected_error_segments` writes for translated HTTP errors
(`code=segment,…`) parses, on the media side, to exactly those (code, segment number) pairs -/
theorem inject_roundtrip_errors (l : List (Int × Int)) :
    fromString C .errorList (injectText (l.map fun e => (some e.1, e.2))) =
      .ok (.errs (l.map fun e => (e.1, Pos.num e.2))) := by
  have htxt : injectText (l.map fun e => (some e.1, e.2)) = errText C (l.map fun e => (e.1, Pos.num e.2)) := by
    simp [injectText, errText, posText, List.map_map, Function.comp_def]
  rw [htxt]
  -- no position is a date-time, so no law about date-time text is needed
  exact errorList_roundtrip C _ (.inr (List.forall_mem_map.mpr fun _ _ _ h => by cases h))

/-- likewise for video corruption (`segment,…`): the media side gets the list of segment numbers -/
theorem inject_roundtrip_corrupt (l : List Int) :
    fromString C .listJoin (injectText (l.map fun s => (none, s))) = .ok (.list (l.map intDec)) := by
  have htxt : injectText (l.map fun s => ((none : Option Int), s)) = joinWith 44 (l.map intDec) := by
    simp [injectText, List.map_map, Function.comp_def]
  rw [htxt]
  exact codec_roundtrip_listJoin C (l.map intDec) fun i hi => by
    obtain ⟨z, _, rfl⟩ := List.mem_map.mp hi
    exact ⟨intDec_noComma z, isNoneCI_intDec z⟩

end

/-- a lawful toy date-time codec (one date-time, written `1T`): `DtCodecLaws` can be met, and the
examples below compute with it -/
def toyCodec : DTCodec Unit :=
  { parse := fun s => if s = ascii "1T" then some () else none, render := fun _ => ascii "1T" }

theorem toyCodec_laws : DtCodecLaws toyCodec where
  roundtrip := by intro d; rfl
  digitFirst := by intro d; exact ⟨49, [84], rfl, by decide⟩
  clean := by intro d; cases d; decide
  notInt := by intro d; rfl

/-! The side conditions of the round trips are the value domain, not a loophole: non-trivial instances,
and what happens at the excluded points (texts that *mean* something else). -/

example : isNoneCI (ascii "mp4a") = false ∧ isNoneCI (ascii "https://l.example/?a=1&b=2+3%20") = false := by
  decide +kernel
/-- the string `None` is not a value of a string option: it is how "no value" is written -/
example : fromString toyCodec .strOrNone (cgiText (toText toyCodec .strOrNone (.str (ascii "None")))) =
    .ok .none := by rfl
example : fromString toyCodec .quotedUrl (cgiText (toText toyCodec .quotedUrl (.str (ascii "none")))) =
    .ok .none := by rfl
/-- an item containing a comma is two items -/
example : fromString toyCodec .listJoin (cgiText (toText toyCodec .listJoin (.list [ascii "a,b"]))) =
    .ok (.list [ascii "a", ascii "b"]) := by rfl
example : CanonDrm [(ascii "playready", ⟨false, false, true⟩), (ascii "clearkey", LocSet.all)] := by
  intro e he
  simp at he
  rcases he with rfl | rfl <;> exact ⟨by decide, by decide⟩
/-- a system with an empty set of locations is written like one with all locations -/
example : drmToString [(ascii "playready", LocSet.empty)] = ascii "playready" ∧
    drmFromString (ascii "playready") = .ok [(ascii "playready", LocSet.all)] := ⟨by rfl, by rfl⟩
/-- `interval=0` is rejected by the positive-integer codec (fix a993bc6) -/
example : fromString toyCodec (.posIntOrDefault 1000) (ascii "0") = .error .valueError := by rfl

def leewayRow : OptionRow := table[32]'(by decide)

/-- a concrete run: `leeway=60` on a video init URL reaches the media handler as the integer 60 -/
example : leewayRow.cgi = "leeway" ∧ ∃ res, mediaOptions toyCodec table (fun _ => Val.none)
    (ascii "/dash/live/bbb/bbb_v7/init.m4v" ++
      mediaQuery toyCodec table 2 (fun _ => some Val.none)
        (fun i => if i = 32 then some (.int 60) else none) []) = .ok res ∧ res 32 = .int 60 := by
  refine ⟨rfl, ?_⟩
  have hrow : table[32]? = some leewayRow := rfl
  have hkind : leewayRow.kind = .intOrNone := rfl
  obtain ⟨res, hres, h⟩ := media_side_same_value toyCodec toyCodec_laws table table_wellformed 2
    (fun _ => Val.none) (fun i => if i = 32 then some (.int 60) else none) [] (by simp)
    (ascii "/dash/live/bbb/bbb_v7/init.m4v") (by decide +kernel)
    (by
      intro i r v hr ho _ _ _ _
      by_cases hi : i = 32
      · subst hi; rw [hrow] at hr; cases hr
        simp at ho; subst ho; rw [hkind]; trivial
      · simp [hi] at ho)
    (by simp)
  refine ⟨res, hres, ?_⟩
  have := ((h 32 _ hrow).2 (by simp)).1 (.int 60) (by simp) (by decide) (by decide)
  exact (ValEquiv_iff_eq _ _ (by intro l; simp)).mp this

open DashLive.Gen.Manifests

section
variable {DT : Type} [DecidableEq DT] (C : DTCodec DT)

omit [DecidableEq DT] in
/-- **an option the template lists (or that is not feature-controlled at all) passes the
feature filter unchanged**, whatever the other options and the stream defaults are -/
theorem supported_options_survive (K : FilterConsts) (tbl : List OptionRow) (features : List String)
    (dflt o : Nat → Val DT) (i : Nat) (r : OptionRow) (hr : tbl[i]? = some r)
    (h : r.full ∈ features ∨ r.pfx ≠ "" ∨ r.full ∉ K.featureControlled) :
    removeUnsupported K tbl features dflt o i = o i :=
  removeUnsupported_kept dflt o hr (dropsOption_eq_false h)

/-- **an option the template does not support is dropped on the manifest side and never appears in
any media URL, so the media side sees its default too – no half-applied option.**
For an accepted manifest request (`hs`), an option `r` that `remove_unsupported_features` controls
and the template does not list:
1. the options handed to `ManifestContext` hold the (stream) default for it, or the field is gone;
2. for every media type and whatever the manifest's timing writes back, no parameter named
   `r.cgi` is generated;
3. whenever the media handler accepts the URL built from those parameters, it has the default. -/
theorem unsupported_options_dropped_consistently (tbl : List OptionRow) (ht : TableOk tbl)
    (K : FilterConsts) (m : ManifestRow) (mode : Bytes) (args : List (Bytes × Bytes))
    (dflt : Nat → Val DT) (of : Opts DT)
    (hs : serveManifestOptions C K tbl m mode args dflt = .ok of)
    (i : Nat) (r : OptionRow) (hr : tbl[i]? = some r)
    (hdrop : dropsOption K m.features r = true) (hh : r.fieldName ∉ handlerFields)
    (ast depth : Val DT)
    (hnt : fieldIdx tbl "availabilityStartTime" ≠ some i ∧ fieldIdx tbl "timeShiftBufferDepth" ≠ some i) :
    (of i = none ∨ of i = some (dflt i)) ∧
    (∀ use t, (r.cgi, t) ∉ genParams C tbl (some use) mediaExclude true (fun j => some (dflt j))
        (withTiming tbl ast depth of)) ∧
    (∀ (use : Nat) (path : Bytes) (ovs : List (String × Bytes)) (res : Nat → Val DT),
      DtCodecLaws C → (ovs.map Prod.fst).Nodup → (35 : UInt8) ∉ path ∧ (63 : UInt8) ∉ path →
      r.cgi ∉ ovs.map Prod.fst →
      (∀ j : Nat, ∀ s : OptionRow, ∀ v, tbl[j]? = some s → withTiming tbl ast depth of j = some v →
        s.usage &&& use ≠ 0 → mediaExclude.contains s.fieldName = false → v ≠ dflt j →
        s.cgi ∉ ovs.map Prod.fst → Canonical s.kind v) →
      (∀ k t, (k, t) ∈ ovs → ∃ j : Nat, ∃ s : OptionRow, ∃ w, tbl[j]? = some s ∧ s.cgi = k ∧
        fromString C s.kind t = .ok w) →
      mediaOptions C tbl dflt (path ++ mediaQuery C tbl use (fun j => some (dflt j))
        (withTiming tbl ast depth of) ovs) = .ok res → res i = dflt i) := by
  obtain ⟨parsed, checked, _, hchecked, hof⟩ := serve_stages C K tbl m mode args dflt of hs
  have hval : of i = none ∨ of i = some (dflt i) := by
    refine (hof i r hr hh).imp id fun h => ?_
    rw [h]
    -- the value check only ever rewrites availabilityStartTime
    rcases astStep_ok C (checkOptionValues_ok C hchecked).1 i with h2 | ⟨hi, _⟩
    · rw [h2, removeUnsupported_dropped dflt parsed hr hdrop]
    · exact absurd hi hnt.1
  have hwt : withTiming tbl ast depth of i = of i := by
    unfold withTiming; simp [hnt.1, hnt.2]
  have hnotin : ∀ use t, (r.cgi, t) ∉ genParams C tbl (some use) mediaExclude true (fun j => some (dflt j))
      (withTiming tbl ast depth of) := by
    intro use t hmem
    obtain ⟨j, s, v, hsr, hc, _, _, ho, hd, _⟩ := forwarding_minimal C _ _ _ _ _ _ hmem
    obtain ⟨rfl, _⟩ := row_unique ht hsr hr (congrArg ascii hc)
    rw [hwt] at ho
    rcases hval with h | h <;> rw [h] at ho
    · cases ho
    · exact hd (ho ▸ rfl)
  refine ⟨hval, hnotin, ?_⟩
  intro use path ovs res hC hovs hp hnov hcanon hov hres
  obtain ⟨res', hres', h⟩ := media_side_parse C hC tbl ht use dflt (withTiming tbl ast depth of)
    ovs hovs path hp hcanon hov
  obtain rfl : res' = res := Except.ok.inj (hres'.symm.trans hres)
  exact ((h i r hr).2 hnov).1 (by rw [hwt]; exact hval.imp id Or.inl)

/-- the options after the manifest's timing has been written back (live manifests) -/
def timed (tbl : List OptionRow) (timing : Option (Val DT × Val DT)) (of : Opts DT) : Opts DT :=
  match timing with
  | some t => withTiming tbl t.1 t.2 of
  | none => of

/-- structural facts about a registry table that the request-level theorem uses; all of them are
`decide`d for the generated table (`table_request_facts`) -/
structure RequestTableFacts (tbl : List OptionRow) (use : Nat) : Prop where
  forced : ∀ r ∈ tbl, r.fieldName ∈ handlerFields → r.usage &&& use = 0
  posDefault : ∀ r ∈ tbl, ∀ d, r.kind = .posIntOrDefault d → 1 ≤ d
  drmRow : ∀ i : Nat, ∀ r : OptionRow, tbl[i]? = some r → r.kind = .drmSelection →
    fieldIdx tbl "drmSelection" = some i
  astRow : ∀ i : Nat, ∀ r : OptionRow, fieldIdx tbl "availabilityStartTime" = some i →
    tbl[i]? = some r → r.kind = .astDateTime ∧ r.dflt ∈ ["now", "today", "month", "year", "epoch"]

/-- **from the request of a manifest to the media handler.**
Request arguments → `calculate_options` with the template's restrictions and features and the stream
defaults → `check_option_values` → the handler's filters → (live) the timing written back →
`generate_cgi_parameters` per media type → `dict_to_cgi_params` → URL → the media handler's
`calculate_options` with the same stream defaults.  For every accepted manifest request the
conclusion of `media_side_same_value` holds for the options the manifest really used:
overridden options parse to their override, every option with a usage bit of the media type ends
with the manifest's value, everything else is at its default.  Hypotheses beyond the table facts:
what the timing writes back is canonical, and the licence-URL corner of `fromString_canonical`. -/
theorem request_to_media_same_value (hC : DtCodecLaws C) (tbl : List OptionRow) (ht : TableOk tbl)
    (K : FilterConsts) (m : ManifestRow) (mode : Bytes) (args : List (Bytes × Bytes))
    (dflt : Nat → Val DT) (of : Opts DT)
    (hs : serveManifestOptions C K tbl m mode args dflt = .ok of)
    (timing : Option (Val DT × Val DT)) (use : Nat) (hfacts : RequestTableFacts tbl use)
    (ovs : List (String × Bytes)) (hovs : (ovs.map Prod.fst).Nodup)
    (path : Bytes) (hp : (35 : UInt8) ∉ path ∧ (63 : UInt8) ∉ path)
    (htiming : ∀ t, timing = some t → ∀ i : Nat, ∀ r : OptionRow, tbl[i]? = some r →
      (fieldIdx tbl "availabilityStartTime" = some i → Canonical r.kind t.1) ∧
      (fieldIdx tbl "timeShiftBufferDepth" = some i → Canonical r.kind t.2))
    (hurl : ∀ kv ∈ applyRestrictions m.restrictions args, ∀ i : Nat, ∀ r : OptionRow,
      findRow tbl kv.1 = some i → tbl[i]? = some r → r.kind = .quotedUrl →
      isNoneCI kv.2 = false → isNoneCI (unquotePlus kv.2) = false)
    (hov : ∀ k t, (k, t) ∈ ovs → ∃ i : Nat, ∃ r : OptionRow, ∃ w, tbl[i]? = some r ∧ r.cgi = k ∧
      fromString C r.kind t = .ok w) :
    ∃ res, mediaOptions C tbl dflt
        (path ++ mediaQuery C tbl use (fun i => some (dflt i)) (timed tbl timing of) ovs) = .ok res ∧
      ∀ i : Nat, ∀ r : OptionRow, tbl[i]? = some r →
        (∀ t, (r.cgi, t) ∈ ovs → fromString C r.kind t = .ok (res i)) ∧
        (r.cgi ∉ ovs.map Prod.fst →
          (∀ v, timed tbl timing of i = some v → r.usage &&& use ≠ 0 →
            mediaExclude.contains r.fieldName = false → ValEquiv (res i) v) ∧
          ((timed tbl timing of i = none ∨ r.usage &&& use = 0 ∨
            mediaExclude.contains r.fieldName = true) → res i = dflt i)) := by
  obtain ⟨parsed, checked, hparsed, hchecked, hof⟩ := serve_stages C K tbl m mode args dflt of hs
  obtain ⟨hast, hdrmok⟩ := checkOptionValues_ok C hchecked
  -- every value of an accepted request that can be written to a media URL is canonical
  have hofcanon : ∀ i : Nat, ∀ r : OptionRow, ∀ v, tbl[i]? = some r → of i = some v →
      r.usage &&& use ≠ 0 → v ≠ dflt i → Canonical r.kind v := by
    intro i r v hr hv hu hd
    have hrm := List.mem_of_getElem? hr
    have hv5 : checked i = v := by
      rcases hof i r hr fun h => hu (hfacts.forced r hrm h) with h | h <;> rw [h] at hv
      · cases hv
      · exact Option.some.inj hv
    rcases astStep_ok C hast i with h | ⟨hi, h | ⟨d, h⟩⟩
    · -- untouched by the value check: a reset to the default, a default or a parsed argument
      have hvf : removeUnsupported K tbl m.features dflt parsed i = v := h ▸ hv5
      have hv0 : parsed i = v := by
        cases hdrop : dropsOption K m.features r
        · rwa [removeUnsupported_kept dflt parsed hr hdrop] at hvf
        · rw [removeUnsupported_dropped dflt parsed hr hdrop] at hvf
          exact absurd hvf.symm hd
      rcases convertOptions_origin C tbl _ dflt parsed hparsed i with hdf | ⟨kv, hkv, r', hf, hr', hfs⟩
      · exact absurd (hdf ▸ hv0).symm hd
      · obtain rfl : r = r' := Option.some.inj (hr.symm.trans hr')
        rw [hv0] at hfs
        refine fromString_canonical C r.kind kv.2 v hfs (fun hk => hurl kv hkv i r hf hr hk)
          (fun d hk => hfacts.posDefault r hrm d hk) fun hk l hl => ?_
        subst hl
        apply drmNamesOk_spec hdrmok
        unfold getField
        rw [hfacts.drmRow i r hr hk]
        exact hvf
    · obtain ⟨hk, hdf⟩ := hfacts.astRow i r hi hr
      rw [← hv5, h]
      exact globalDefault_ast_canonical C tbl i r hr hk hdf
    · rw [← hv5, h, (hfacts.astRow i r hi hr).1]; trivial
  apply media_side_same_value C hC tbl ht use dflt (timed tbl timing of) ovs hovs path hp ?_ hov
  intro i r v hr hv hu _ hd _
  cases timing with
  | none => exact hofcanon i r v hr hv hu hd
  | some t =>
    simp only [timed, withTiming] at hv
    obtain ⟨ha, hdp⟩ := htiming t rfl i r hr
    have hmap : ∀ w : Val DT, (of i).map (fun _ => w) = some v → v = w := fun w h => by
      cases hoi : of i <;> simp [hoi] at h
      exact h.symm
    split at hv
    · rename_i hi
      exact hmap _ hv ▸ ha hi
    · split at hv
      · rename_i hi
        exact hmap _ hv ▸ hdp hi
      · exact hofcanon i r v hr hv hu hd

end

/-- **for every template of `manifest_map` and every option whose feature the template lists, the
feature filter keeps the option** (with `supported_options_survive`: its value passes unchanged) -/
theorem supported_options_survive_table :
    ∀ m ∈ manifests, ∀ r ∈ table, r.full ∈ m.features → dropsOption filters m.features r = false :=
  fun _ _ _ _ h => dropsOption_eq_false (Or.inl h)

/-- the only options with a media usage bit that some template drops are the audio codec, the DRM
selection and the event selection; no template drops the start time or the buffer depth, and the
only handler-assigned field among the feature-controlled ones is `segmentTimeline` (manifest only) -/
theorem table_dropped_media_options :
    (∀ m ∈ manifests, ∀ r ∈ table, dropsOption filters m.features r = true → r.usage &&& 14 ≠ 0 →
      r.full ∈ ["audioCodec", "drmSelection", "eventTypes"]) ∧
    (∀ r ∈ table, r.pfx = "" → r.full ∈ featureControlled →
      r.fieldName ∉ ["availabilityStartTime", "timeShiftBufferDepth", "mode", "patch"]) := by
  constructor
  · -- a dropped option is a top-level, feature-controlled one whatever the template
    have h : ∀ r ∈ table, r.usage &&& 14 ≠ 0 → r.pfx = "" → r.full ∈ featureControlled →
        r.full ∈ ["audioCodec", "drmSelection", "eventTypes"] := by decide +kernel
    intro m _ r hr hd hu
    simp only [dropsOption, Bool.and_eq_true, beq_iff_eq, List.contains_iff_mem] at hd
    exact h r hr hu hd.1.1 hd.1.2
  · -- the field name of a top-level option is its full name
    have h : ∀ n ∈ ["availabilityStartTime", "timeShiftBufferDepth", "mode", "patch"], n ∉ featureControlled := by
      decide
    intro r _ hp hf hn
    rw [OptionRow.fieldName, if_pos hp] at hn
    exact h _ hn hf

/-- every name the filters use is a real top-level option, every restricted parameter is a registered
cgi name, and the names of the DRM branches of `remove_unused_parameters` match no field (inert) -/
theorem table_filter_names :
    (∀ f ∈ featureControlled, ∃ r ∈ table, r.pfx = "" ∧ r.full = f) ∧
    (∀ f ∈ liveOnly, ∃ r ∈ table, r.pfx = "" ∧ r.full = f) ∧
    (∀ m ∈ manifests, ∀ kr ∈ m.restrictions, ∃ r ∈ table, r.cgi = kr.1) ∧
    (∀ r ∈ table, r.pfx = "" → r.full ∉ drmUnused) ∧
    (∀ f ∈ ["drmSelection", "utcMethod", "availabilityStartTime", "audioErrors", "manifestErrors",
        "textErrors", "videoErrors", "videoCorruption", "eventTypes", "clockDrift", "leeway",
        "minimumUpdatePeriod", "timeShiftBufferDepth", "mode", "patch", "segmentTimeline"],
      ∃ r ∈ table, r.fieldName = f) ∧
    (∀ e ∈ eventTypes, ∀ k ∈ ["count", "timescale", "duration", "version"],
      ∃ r ∈ table, r.fieldName = e ++ "." ++ k) := by
  -- the four facts about top-level names in one evaluation, so that these names are read once
  have h : (∀ f ∈ featureControlled ++ liveOnly ++ ["drmSelection", "utcMethod", "availabilityStartTime",
        "audioErrors", "manifestErrors", "textErrors", "videoErrors", "videoCorruption", "eventTypes",
        "clockDrift", "leeway", "minimumUpdatePeriod", "timeShiftBufferDepth", "mode", "patch",
        "segmentTimeline"], f ∈ (table.filter (·.pfx = "")).map (·.full)) ∧
      ∀ f ∈ drmUnused, f ∉ (table.filter (·.pfx = "")).map (·.full) := by decide +kernel
  have top : ∀ {f}, f ∈ (table.filter (·.pfx = "")).map (·.full) → ∃ r ∈ table, r.pfx = "" ∧ r.full = f := by
    simp [and_assoc]
  refine ⟨fun f hf => top (h.1 f (by simp [hf])), fun f hf => top (h.1 f (by simp [hf])), by decide +kernel,
    fun r hr hp hm => h.2 _ hm (List.mem_map.mpr ⟨r, List.mem_filter.mpr ⟨hr, by simpa using hp⟩, rfl⟩),
    fun f hf => ?_, by decide +kernel⟩
  obtain ⟨r, hr, hp, rfl⟩ := top (h.1 f (by simp [hf]))
  exact ⟨r, hr, by rw [OptionRow.fieldName, if_pos hp]⟩

theorem table_request_facts : ∀ use ∈ [2, 4, 8], RequestTableFacts table use := by
  -- one pass, so that each field name is built once
  have h : ∀ r ∈ table, (r.fieldName ∈ handlerFields → ∀ use ∈ [2, 4, 8], r.usage &&& use = 0) ∧
      (match r.kind with | .posIntOrDefault d => decide (1 ≤ d) | _ => true) = true ∧
      (r.kind = .drmSelection → r.fieldName = "drmSelection") ∧
      (r.fieldName = "availabilityStartTime" →
        r.kind = .astDateTime ∧ r.dflt ∈ ["now", "today", "month", "year", "epoch"]) := by decide +kernel
  intro use hu
  refine ⟨fun r hr hf => (h r hr).1 hf use hu, ?_, ?_, ?_⟩
  · intro r hr d hk
    have := (h r hr).2.1
    rw [hk] at this
    simpa using this
  · intro i r hr hk
    exact (h r (List.mem_of_getElem? hr)).2.2.1 hk ▸ fieldIdx_of_get table_field_names_distinct.1 hr
  · intro i r hi hr
    obtain ⟨r', hr', hn⟩ := fieldIdx_spec hi
    obtain rfl : r = r' := Option.some.inj (hr.symm.trans hr')
    exact (h r (List.mem_of_getElem? hr)).2.2.2 hn

section
variable {DT : Type} [DecidableEq DT] (C : DTCodec DT)

/-- `request_to_media_same_value` for the generated tables: every template of `manifest_map`, every
media type, the registered options and the filters' constants as they are in the tree -/
theorem request_to_media_same_value_generated (hC : DtCodecLaws C) (m : ManifestRow) (_hm : m ∈ manifests)
    (use : Nat) (hu : use ∈ [2, 4, 8]) (mode : Bytes) (args : List (Bytes × Bytes))
    (dflt : Nat → Val DT) (of : Opts DT)
    (hs : serveManifestOptions C filters table m mode args dflt = .ok of)
    (timing : Option (Val DT × Val DT))
    (ovs : List (String × Bytes)) (hovs : (ovs.map Prod.fst).Nodup)
    (path : Bytes) (hp : (35 : UInt8) ∉ path ∧ (63 : UInt8) ∉ path)
    (htiming : ∀ t, timing = some t → ∀ i : Nat, ∀ r : OptionRow, table[i]? = some r →
      (fieldIdx table "availabilityStartTime" = some i → Canonical r.kind t.1) ∧
      (fieldIdx table "timeShiftBufferDepth" = some i → Canonical r.kind t.2))
    (hurl : ∀ kv ∈ applyRestrictions m.restrictions args, ∀ i : Nat, ∀ r : OptionRow,
      findRow table kv.1 = some i → table[i]? = some r → r.kind = .quotedUrl →
      isNoneCI kv.2 = false → isNoneCI (unquotePlus kv.2) = false)
    (hov : ∀ k t, (k, t) ∈ ovs → ∃ i : Nat, ∃ r : OptionRow, ∃ w, table[i]? = some r ∧ r.cgi = k ∧
      fromString C r.kind t = .ok w) :
    ∃ res, mediaOptions C table dflt
        (path ++ mediaQuery C table use (fun i => some (dflt i)) (timed table timing of) ovs) = .ok res ∧
      ∀ i : Nat, ∀ r : OptionRow, table[i]? = some r →
        (∀ t, (r.cgi, t) ∈ ovs → fromString C r.kind t = .ok (res i)) ∧
        (r.cgi ∉ ovs.map Prod.fst →
          (∀ v, timed table timing of i = some v → r.usage &&& use ≠ 0 →
            mediaExclude.contains r.fieldName = false → ValEquiv (res i) v) ∧
          ((timed table timing of i = none ∨ r.usage &&& use = 0 ∨
            mediaExclude.contains r.fieldName = true) → res i = dflt i)) :=
  request_to_media_same_value C hC table table_wellformed filters m mode args dflt of hs timing use
    (table_request_facts use hu) ovs hovs path hp htiming hurl hov

end

/-- a concrete accepted request: `manifest_a.mpd` lists neither `drmSelection` nor `eventTypes` and
restricts `drm` to `none`: `?drm=playready&events=ping&leeway=60` keeps the leeway, and the DRM and
event selections handed to `ManifestContext` are the defaults (nothing half-applied) -/
example : ∃ m ∈ manifests, m.key = "manifest_a.mpd" ∧ ∃ of,
    serveManifestOptions toyCodec filters table m (ascii "live")
      [(ascii "drm", ascii "playready"), (ascii "events", ascii "ping"), (ascii "leeway", ascii "60")]
      (globalDefault toyCodec table) = .ok of ∧
    of 5 = some (.drm []) ∧ of 10 = some (.list []) ∧ of 32 = some (.int 60) := by
  refine ⟨manifests[2]'(by decide), List.getElem_mem _, rfl, ?_⟩
  generalize hs : serveManifestOptions _ _ _ _ _ _ _ = x
  have h : (x.toOption.map fun of => (of 5, of 10, of 32)) =
      some (some (.drm []), some (.list []), some (.int 60)) := by subst hs; decide +kernel
  match x, h with
  | .ok of, h => exact ⟨of, rfl, by simpa [Except.toOption] using h⟩

end DashLive.Options
