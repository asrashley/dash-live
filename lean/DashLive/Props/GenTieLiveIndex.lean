import DashLive.Gen.LiveIndex
import DashLive.Props.GenTie
import DashLive.Lemmas.Segments
/-!
# Translated live index calculation = hand-written model

`Gen/LiveIndex.lean` is regenerated from /repo's source text on every run
(`harness/gen_liveindex.py`): `LiveMedia.calculate_media_segment_index` for `mode = live` with
`calculate_first_and_last_segment_number`, `calculate_segment_number_and_time` and
`calculate_segment_from_timecode` inlined, specialised to a `$Time$` and to a `$Number$`
request, `raise ValueError` (404) as `none`, and the same for `mode = vod` (`vodIndexTime`,
`vodIndexNumber` = `Segments.vodIndex`, C06).  The theorems prove the live ones equal to
`Segments.liveIndex` – the function C01's fetchability theorems and C02's request theorems
are about – with the two float computations as the same parameters the model has
(`conv` = `timescale_to_timedelta`, `scaled` = `int(scale_timedelta(…))` instantiated with the
integer model `scaleTd`; the correspondence channels validate those two against the code).
-/
open DashLive DashLive.Segments
namespace DashLive.GenTie

/-- the handler's result as the translated function reports it -/
def resOpt : Res → Option (Int × Int × Int)
  | .ok m o n => some ((m : Int), (o : Int), n)
  | .notFound => none

theorem tie_liveIndexTime (convM : Nat → Int) (durs : List Nat) (ts sd sn refDur refTs : Nat) (w : Win) (t : Nat) :
    Gen.LiveIndex.liveIndexTime (fun x => convM x.toNat) (segDurOf durs) sn ts sd durs.length w.E w.F w.leeway w.tsbd
        (scaleTd w.E ts sd) refDur refTs (durs.length + 1) t
      = resOpt (liveIndex convM durs ts sd sn (refDuration refDur refTs ts) w (.time t)) := by
  unfold Gen.LiveIndex.liveIndexTime Gen.LiveIndex.gsi
  dsimp only
  rw [liveIndex_time, tie_getSegmentIndex, fdiv_cast, ← Int.natCast_mul, fdiv_cast, Int.toNat_natCast,
    apply_ite resOpt]
  -- the translated test has the same disjuncts (the gate by unfolding `firstLastLive`), and
  -- `seg_time < 0`, which never holds
  exact if_congr (or_congr Iff.rfl ((or_iff_right (Int.not_lt.mpr (Int.natCast_nonneg t))).trans
    (or_congr (by omega) Iff.rfl))) rfl rfl

theorem tie_liveIndexNumber (convM : Nat → Int) (durs : List Nat) (ts sd sn refDur refTs : Nat) (w : Win) (n : Int) :
    Gen.LiveIndex.liveIndexNumber (fun x => convM x.toNat) (segDurOf durs) sn ts sd durs.length w.E w.F w.leeway w.tsbd
        (scaleTd w.E ts sd) refDur refTs (durs.length + 1) n
      = resOpt (liveIndex convM durs ts sd sn (refDuration refDur refTs ts) w (.number n)) := by
  unfold Gen.LiveIndex.liveIndexNumber Gen.LiveIndex.gsi
  dsimp only
  rw [liveIndex_number, ← Int.natCast_mul, fdiv_cast, apply_ite resOpt]
  by_cases htc : (n - (sn : Int)) * (sd : Int) < 0
  · rw [if_pos (Or.inr (Or.inl htc)), if_pos (Or.inl htc)]; rfl
  · -- `tc` as `↑tc.toNat`, the form in which `get_segment_index` is tied; the tests differ in order only
    rw [← Int.toNat_of_nonneg (Int.not_lt.mp htc), tie_getSegmentIndex, Int.toNat_natCast]
    exact if_congr (or_left_comm.trans
      (or_congr Iff.rfl (or_congr Iff.rfl (or_congr (by omega) Iff.rfl)))) rfl rfl

theorem tie_vodIndexNumber (conv segDur : Int → Int) (n sd sn : Nat) (k : Int) (ts E F l tsbd scaled rmd rts : Int) (fuel : Nat) :
    Gen.LiveIndex.vodIndexNumber conv segDur sn ts sd n E F l tsbd scaled rmd rts fuel k
      = resOpt (vodIndex n sd sn (.number k)) := by
  unfold Gen.LiveIndex.vodIndexNumber vodIndex firstLastVod
  dsimp only
  by_cases h : k < (sn : Int) ∨ k > (n : Int) + (sn : Int) - 1
  · rw [if_pos h, if_pos h]; rfl
  · rw [if_neg h, if_neg h]
    unfold resOpt
    dsimp only
    congr 2
    omega

theorem tie_vodIndexTime (conv segDur : Int → Int) (n sd sn t : Nat) (ts E F l tsbd scaled rmd rts : Int) (fuel : Nat) :
    Gen.LiveIndex.vodIndexTime conv segDur sn ts sd n E F l tsbd scaled rmd rts fuel t
      = resOpt (vodIndex n sd sn (.time t)) := by
  rw [vodIndex_time, ← tie_vodIndexNumber conv segDur n sd sn _ ts E F l tsbd scaled rmd rts fuel]
  unfold Gen.LiveIndex.vodIndexTime Gen.LiveIndex.vodIndexNumber
  dsimp only
  rw [fdiv_ofNat, ← Int.natCast_add t, fdiv_cast]

end DashLive.GenTie
