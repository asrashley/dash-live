import DashLive.Model.Scte35
import DashLive.Lemmas.Bits
/-! Round-trip lemmas for the SCTE-35 model (C14): every parser/encoder pair as a `Reads`
statement (`Lemmas/Bits.lean`); the encoders that patch a length into a placeholder are first shown
equal to the plain concatenation with the byte count in place, which needs `8 ∣ _.length` of every part.
The `wf` predicates of the C14 statements (`SpliceTime.wf` … `Signal.wf`) are defined in this file. -/
namespace DashLive.Scte35
open DashLive.Bits

def SpliceTime.wf (t : SpliceTime) : Bool :=
  match t.pts with
  | none => true
  | some p => decide (p < 2 ^ 33)

def BreakDuration.wf (b : BreakDuration) : Bool := decide (b.duration < 2 ^ 33)

def Component.wf (c : Component) : Bool := decide (c.tag < 2 ^ 8) && c.time.wf

/-- `immediate` only without a program `splice_time` (the encoder derives
`program_splice_flag` from the presence of `splice_time`, and does not code a
program `splice_time` of an immediate splice – D13i); program mode has no
components; a cancelled event is in canonical form. -/
def SpliceInsert.wf (s : SpliceInsert) : Bool :=
  decide (s.eventId < 2 ^ 32) &&
  (if s.cancel then decide (s = SpliceInsert.cancelled s.eventId)
   else
     (match s.spliceTime with
       | some t => t.wf && !s.immediate && s.components.isEmpty
       | none => true) &&
     decide (s.components.length < 2 ^ 8) && s.components.all Component.wf &&
     (match s.breakDuration with
       | some b => b.wf
       | none => true) &&
     decide (s.uniqueProgramId < 2 ^ 16) && decide (s.availNum < 2 ^ 8) &&
     decide (s.availsExpected < 2 ^ 8))

theorem SpliceTime.parse_enc (t : SpliceTime) (h : t.wf = true) : Reads SpliceTime.parse t.enc t := by
  obtain ⟨_ | v⟩ := t <;> simp only [SpliceTime.enc, List.append_assoc] <;> unfold SpliceTime.parse
  · exact .bind .bool fun _ => .ite_neg Bool.false_ne_true <| .bind_last .skip fun _ _ => rfl
  · exact .bind .bool fun _ => .ite_pos rfl <| .bind .skip fun _ =>
      .bind_last (.get (of_decide_eq_true h)) fun _ _ => rfl

theorem BreakDuration.parse_enc (b : BreakDuration) (h : b.wf = true) : Reads BreakDuration.parse b.enc b := by
  unfold BreakDuration.parse BreakDuration.enc
  rw [List.append_assoc, putBits_one_bool]
  exact .bind .bool fun _ => .bind .skip fun _ => .bind_last (.get (of_decide_eq_true h)) fun _ _ => rfl

theorem Component.parse_enc (c : Component) (h : c.wf = true) : Reads Component.parse c.enc c := by
  simp only [Component.wf, Bool.and_eq_true, decide_eq_true_eq] at h
  unfold Component.parse Component.enc
  exact .bind (.get h.1) fun _ => .bind_last (SpliceTime.parse_enc _ h.2) fun _ _ => rfl

theorem parseComponents_enc (cs : List Component) (h : cs.all Component.wf = true) :
    Reads (parseComponents cs.length) (cs.flatMap Component.enc) cs := by
  induction cs with
  | nil => exact .pure []
  | cons c cs ih =>
    simp only [List.all_cons, Bool.and_eq_true] at h
    rw [List.flatMap_cons]
    show Reads (fun r => parseComponents (cs.length + 1) r) _ _
    unfold parseComponents
    exact .bind (Component.parse_enc c h.1) fun _ => .bind_last (ih h.2) fun _ _ => rfl

theorem SpliceInsert.parse_enc (s : SpliceInsert) (h : s.wf = true) : Reads SpliceInsert.parse s.enc s := by
  obtain ⟨eventId, cancel, oon, imm, st, comps, bd, upid, an, ae⟩ := s
  simp only [SpliceInsert.wf, Bool.and_eq_true, decide_eq_true_eq] at h
  obtain ⟨hid, h⟩ := h
  unfold SpliceInsert.enc
  -- `↓`: re-associating from the root outwards is linear in the number of fields
  simp only [↓List.append_assoc, putBits_one_bool]
  unfold SpliceInsert.parse
  refine .bind (.get hid) fun _ => .bind .bool fun _ => .bind .skip fun _ => ?_
  cases cancel with
  | true =>
    simp only [if_true, decide_eq_true_eq] at h
    cases h
    exact .ite_pos rfl (.pure _)
  | false =>
    simp only [Bool.false_eq_true, if_false, Bool.and_eq_true, decide_eq_true_eq] at h
    obtain ⟨⟨⟨⟨⟨⟨hst, hlen⟩, hcomps⟩, hbd⟩, hup⟩, han⟩, hae⟩ := h
    refine .ite_neg Bool.false_ne_true <| .bind .bool fun _ => .bind .bool fun _ => .bind .bool fun _ =>
      .bind .bool fun _ => .bind .skip fun _ => ?_
    -- one block of the encoding, two of the parser: `splice_time` (program mode), components
    obtain _ | t := st
    case' none =>
      refine .bind_empty (fun _ => if_neg (by simp)) fun _ =>
        .bind (.ite_pos rfl <| .bind (.get hlen) fun _ => parseComponents_enc comps hcomps) fun _ => ?_
    case' some =>
      simp only [Bool.and_eq_true, Bool.not_eq_true', List.isEmpty_iff] at hst
      obtain ⟨⟨ht, rfl⟩, rfl⟩ := hst
      refine .bind (.ite_pos (by simp) <| .map some (SpliceTime.parse_enc t ht)) fun _ =>
        .bind_empty (fun _ => if_neg Bool.false_ne_true) fun _ => ?_
    all_goals
      refine .bind (v := bd) ?_ fun _ => .bind (.get hup) fun _ => .bind (.get han) fun _ =>
        .bind_last (.get hae) fun _ _ => rfl
      obtain _ | b := bd
      · exact .ite_neg Bool.false_ne_true (.pure _)
      · exact .ite_pos rfl <| .map some (BreakDuration.parse_enc b hbd)

theorem SpliceTime.enc_length (t : SpliceTime) : t.enc.length = if t.pts.isSome then 40 else 8 := by
  obtain ⟨_ | v⟩ := t <;> rfl

theorem BreakDuration.enc_length (b : BreakDuration) : b.enc.length = 40 := by
  simp only [BreakDuration.enc, List.length_append, putBits_length]

theorem components_enc_dvd (cs : List Component) : 8 ∣ (cs.flatMap Component.enc).length := by
  induction cs with
  | nil => exact ⟨0, rfl⟩
  | cons c cs ih =>
    simp only [List.flatMap_cons, Component.enc, List.length_append, putBits_length, SpliceTime.enc_length]
    split <;> omega

theorem SpliceInsert.enc_dvd (s : SpliceInsert) : 8 ∣ s.enc.length := by
  have hc := components_enc_dvd s.components
  unfold SpliceInsert.enc
  cases s.spliceTime <;> cases s.breakDuration <;>
    simp only [List.length_append, putBits_length, apply_ite List.length, List.length_nil, SpliceTime.enc_length,
      BreakDuration.enc_length] <;>
    (repeat' split) <;> omega

def SegDesc.wf (d : SegDesc) : Bool :=
  decide (d.eventId < 2 ^ 32) &&
  (if d.cancel then decide (d = SegDesc.cancelled d.eventId)
   else
     (if d.deliveryNotRestricted then
        d.webDeliveryAllowed && d.noRegionalBlackout && d.archiveAllowed && decide (d.deviceRestrictions = 3)
      else decide (d.deviceRestrictions < 2 ^ 2)) &&
     (match d.duration with
       | some x => decide (x < 2 ^ 40)
       | none => true) &&
     decide (d.upidType < 2 ^ 8) && decide (d.upid.length < 2 ^ 8) && d.upid.all (fun b => decide (b < 256)) &&
     decide (d.typeId < 2 ^ 8) && decide (d.segmentNum < 2 ^ 8) && decide (d.segmentsExpected < 2 ^ 8) &&
     (if hasSubSegments d.typeId then
        decide (d.subSegmentNum < 2 ^ 8) && decide (d.subSegmentsExpected < 2 ^ 8)
      else decide (d.subSegmentNum = 0) && decide (d.subSegmentsExpected = 0)))

theorem SegDesc.parse_enc (d : SegDesc) (h : d.wf = true) : Reads SegDesc.parseFields d.encFields d := by
  obtain ⟨eventId, cancel, dnr, web, blk, arch, devr, dur, ut, upid, ty, sn, se, ssn, sse⟩ := d
  simp only [SegDesc.wf, Bool.and_eq_true, decide_eq_true_eq] at h
  obtain ⟨hid, h⟩ := h
  unfold SegDesc.encFields
  simp only [↓List.append_assoc, putBits_one_bool, putBits_1_1]
  unfold SegDesc.parseFields
  refine .bind (.get hid) fun _ => .bind .bool fun _ => .bind .skip fun _ => ?_
  cases cancel with
  | true =>
    simp only [if_true, decide_eq_true_eq] at h
    cases h
    exact .ite_pos rfl (.pure _)
  | false =>
    simp only [Bool.false_eq_true, if_false, Bool.and_eq_true, decide_eq_true_eq, List.all_eq_true] at h
    obtain ⟨⟨⟨⟨⟨⟨⟨⟨hdnr, hdur⟩, hut⟩, hul⟩, hub⟩, hty⟩, hsn⟩, hse⟩, hsub⟩ := h
    -- the three optional blocks (restrictions, duration, sub-segments) are left as `?_`: the goals below
    refine .ite_neg Bool.false_ne_true <| .bind .bool fun _ => .bind .bool fun _ => .bind .bool fun _ =>
      .bind (v := (web, blk, arch, devr)) ?_ fun _ => .ite_neg Bool.false_ne_true <|
      .bind (v := dur) ?_ fun _ => .bind (.get hut) fun _ => .bind (.get hul) fun _ =>
      .bind (.getBytes hub) fun _ => .bind (.get hty) fun _ => .bind (.get hsn) fun _ =>
      .bind (.get hse) fun _ => .bind_last (v := (ssn, sse)) ?_ fun _ _ => rfl
    · cases dnr
      · simp only [Bool.false_eq_true, if_false, decide_eq_true_eq] at hdnr
        exact .ite_neg Bool.false_ne_true <| .bind .bool fun _ => .bind .bool fun _ => .bind .bool fun _ =>
          .bind_last (.get hdnr) fun _ _ => rfl
      · simp only [if_true, Bool.and_eq_true, decide_eq_true_eq] at hdnr
        obtain ⟨⟨⟨rfl, rfl⟩, rfl⟩, rfl⟩ := hdnr
        exact .ite_pos rfl <| .bind_last .skip fun _ _ => rfl
    · obtain _ | x := dur
      · exact .ite_neg Bool.false_ne_true (.pure _)
      · exact .ite_pos rfl <| .map some (.get (of_decide_eq_true hdur))
    · cases hs : hasSubSegments ty <;>
        simp only [hs, Bool.false_eq_true, if_false, if_true, Bool.and_eq_true, decide_eq_true_eq] at hsub
      · obtain ⟨rfl, rfl⟩ := hsub
        exact .ite_neg Bool.false_ne_true (.pure _)
      · exact .ite_pos rfl <| .bind (.get hsub.1) fun _ => .bind_last (.get hsub.2) fun _ _ => rfl

theorem SegDesc.encFields_dvd (d : SegDesc) : 8 ∣ d.encFields.length := by
  unfold SegDesc.encFields
  cases d.duration <;>
    simp only [List.length_append, putBits_length, putBytes_length, apply_ite List.length, List.length_nil,
      Nat.reduceAdd, ite_self] <;>
    (repeat' split) <;> omega

/-- byte length of the class specific fields of a descriptor -/
def Descriptor.bodyBytes (d : Descriptor) : Nat := d.encFields.length / 8

theorem Descriptor.encFields_length (d : Descriptor) : d.encFields.length = 8 * d.bodyBytes := by
  refine (Nat.mul_div_cancel' ?_).symm
  cases d with
  | avail i p => exact ⟨4, putBits_length ..⟩
  | segmentation i s => exact s.encFields_dvd
  | time i s n o => exact ⟨12, by simp only [Descriptor.encFields, List.length_append, putBits_length]⟩

/-- the bits of one descriptor with its `descriptor_length` filled in -/
def Descriptor.flat (d : Descriptor) : Bits :=
  putBits 8 d.tag ++ putBits 8 (4 + d.bodyBytes) ++ putBits 32 d.identifier ++ d.encFields

theorem Descriptor.flat_length (d : Descriptor) : d.flat.length = 8 * (6 + d.bodyBytes) := by
  simp only [Descriptor.flat, List.length_append, putBits_length, d.encFields_length]; omega

/-- **length back-patching of `SpliceDescriptor.encode`**: the placeholder is
replaced by the byte count of everything after the length field -/
theorem Descriptor.enc_eq (w : Bits) (d : Descriptor) : Descriptor.enc w d = w ++ d.flat := by
  simp only [Descriptor.enc, Descriptor.flat]
  rw [List.append_assoc _ (putBits 32 _) d.encFields,
    backpatch_bytes (k := 4 + d.bodyBytes)
      (by rw [List.length_append, putBits_length, d.encFields_length]; omega),
    overwrite_placeholder]
  simp only [List.append_assoc]

theorem descriptors_foldl (ds : List Descriptor) (w : Bits) :
    ds.foldl Descriptor.enc w = w ++ ds.flatMap Descriptor.flat := by
  induction ds generalizing w with
  | nil => simp
  | cons d ds ih => simp [List.foldl_cons, Descriptor.enc_eq, ih, List.append_assoc]

def Descriptor.wf (d : Descriptor) : Bool :=
  decide (d.identifier < 2 ^ 32) && decide (4 + d.bodyBytes < 2 ^ 8) &&
  (match d with
    | .avail _ p => decide (p < 2 ^ 32)
    | .segmentation _ s => s.wf
    | .time _ s n o => decide (s < 2 ^ 48) && decide (n < 2 ^ 32) && decide (o < 2 ^ 16))

theorem Descriptor.parse_flat (d : Descriptor) (h : d.wf = true) :
    Reads Descriptor.parse d.flat (d, 4 + d.bodyBytes) := by
  simp only [Descriptor.wf, Bool.and_eq_true, decide_eq_true_eq] at h
  obtain ⟨⟨hi, hl⟩, hb⟩ := h
  have ht : d.tag < 2 ^ 8 := by cases d <;> simp only [Descriptor.tag] <;> decide
  unfold Descriptor.flat
  simp only [↓List.append_assoc]
  unfold Descriptor.parse
  refine .bind (.get ht) fun _ => .bind (.get hl) fun _ => .bind (.get hi) fun _ => ?_
  cases d with
  | avail i a =>
    exact .ite_pos rfl <| .bind_last (.get (of_decide_eq_true hb)) fun _ _ => rfl
  | segmentation i s =>
    exact .ite_neg (by decide : 2 ≠ 0) <| .ite_pos rfl <| .bind_last (SegDesc.parse_enc s hb) fun _ _ => rfl
  | time i s n o =>
    simp only [Bool.and_eq_true, decide_eq_true_eq] at hb
    simp only [Descriptor.encFields, List.append_assoc]
    exact .ite_neg (by decide : 3 ≠ 0) <| .ite_neg (by decide : 3 ≠ 2) <| .ite_pos rfl <|
      .bind (.get hb.1.1) fun _ => .bind (.get hb.1.2) fun _ => .bind_last (.get hb.2) fun _ _ => rfl

theorem descriptors_flat_dvd (ds : List Descriptor) : 8 ∣ (ds.flatMap Descriptor.flat).length := by
  induction ds with
  | nil => exact ⟨0, rfl⟩
  | cons d ds ih =>
    rw [List.flatMap_cons, List.length_append, d.flat_length]
    omega

/-- `bytepos` advances by whole bytes whether or not the reader started on one: `p` need not be aligned -/
theorem parseDescriptors_flat (ds : List Descriptor) (h : ds.all Descriptor.wf = true) :
    ∀ (fuel p endpos : Nat) (rest : Bits), (ds.flatMap Descriptor.flat).length < fuel →
      endpos = p / 8 + (ds.flatMap Descriptor.flat).length / 8 →
      parseDescriptors fuel endpos ⟨p, ds.flatMap Descriptor.flat ++ rest⟩ =
        some (ds.map (fun d => (d, 4 + d.bodyBytes)), ⟨p + (ds.flatMap Descriptor.flat).length, rest⟩) := by
  induction ds with
  | nil =>
    intro fuel p endpos rest hf he
    obtain _ | fuel := fuel
    · cases hf
    · simp [parseDescriptors, Rd.bytepos, he]
  | cons d ds ih =>
    intro fuel p endpos rest hf he
    simp only [List.all_cons, Bool.and_eq_true] at h
    obtain ⟨k, hk⟩ := descriptors_flat_dvd ds
    have hd := d.flat_length
    rw [List.flatMap_cons, List.length_append, hd, hk] at he hf
    obtain _ | fuel := fuel
    · exact absurd hf (Nat.not_lt_zero _)
    · have hlt : p / 8 < endpos := by omega
      simp only [parseDescriptors, Rd.bytepos, List.flatMap_cons, hlt, if_true, List.append_assoc,
        Descriptor.parse_flat d h.1 p, Option.bind_eq_bind, Option.bind_some,
        ih h.2 fuel (p + d.flat.length) endpos rest (by omega) (by rw [hd, hk]; omega), List.map_cons,
        List.length_append, Nat.add_assoc]

theorem descriptors_read (ds : List Descriptor) (h : ds.all Descriptor.wf = true) :
    Reads (fun r => parseDescriptors (r.rest.length + 1) (r.bytepos + (ds.flatMap Descriptor.flat).length / 8) r)
      (ds.flatMap Descriptor.flat) (ds.map fun d => (d, 4 + d.bodyBytes)) := fun p rest =>
  parseDescriptors_flat ds h _ p _ rest (by rw [List.length_append]; omega) rfl

def Command.bytes (c : Command) : Nat := c.enc.length / 8

theorem Command.enc_length (c : Command) : c.enc.length = 8 * c.bytes := by
  refine (Nat.mul_div_cancel' ?_).symm
  cases c with
  | null => exact ⟨0, rfl⟩
  | insert s => exact s.enc_dvd
  | timeSignal t => rw [Command.enc, t.enc_length]; split <;> decide

/-- `descriptor_loop_length` -/
def Signal.loopBytes (s : Signal) : Nat := (s.descriptors.flatMap Descriptor.flat).length / 8

theorem Signal.loop_length (s : Signal) :
    (s.descriptors.flatMap Descriptor.flat).length = 8 * s.loopBytes :=
  (Nat.mul_div_cancel' (descriptors_flat_dvd s.descriptors)).symm

/-- what `encode_fields` leaves in the buffer, with both lengths filled in -/
def Signal.fieldsFlat (s : Signal) : Bits :=
  putBits 8 s.protocolVersion ++ putBits 1 s.encryptedPacket.toNat ++ putBits 6 s.encryptionAlgorithm ++
  putBits 33 s.ptsAdjustment ++ putBits 8 s.cwIndex ++ putBits 12 s.tier ++
  putBits 12 s.command.bytes ++ (putBits 8 s.command.type ++ s.command.enc) ++
  putBits 16 s.loopBytes ++ s.descriptors.flatMap Descriptor.flat

theorem Signal.encFields_eq (s : Signal) (w : Bits) : s.encFields w = w ++ s.fieldsFlat := by
  simp only [Signal.encFields, descriptors_foldl]
  rw [List.append_assoc _ (putBits 8 _) s.command.enc,
    backpatch_bytes (k := s.command.bytes)
      (by rw [List.length_append, putBits_length, s.command.enc_length]; omega),
    overwrite_placeholder, backpatch_bytes (k := s.loopBytes) (by rw [s.loop_length]),
    overwrite_placeholder]
  simp only [Signal.fieldsFlat, List.append_assoc]

theorem Signal.fieldsFlat_length (s : Signal) :
    s.fieldsFlat.length = 8 * (13 + s.command.bytes + s.loopBytes) := by
  simp only [Signal.fieldsFlat, List.length_append, putBits_length, s.command.enc_length, s.loop_length]
  omega

/-- `section_length`: the bytes after the length field, CRC included -/
def Signal.sectionLength (s : Signal) : Nat := 17 + s.command.bytes + s.loopBytes

/-- the section before the CRC, with `section_length` filled in -/
def Signal.bodyFlat (s : Signal) : Bits :=
  putBits 8 s.tableId ++ putBits 1 s.sectionSyntaxIndicator.toNat ++ putBits 1 s.privateIndicator.toNat ++
  putBits 2 s.sapType ++ putBits 12 s.sectionLength ++ s.fieldsFlat

theorem Signal.encBody_eq (s : Signal) : s.encBody = s.bodyFlat := by
  simp only [Signal.encBody, Signal.encFields_eq]
  rw [backpatch_bytes (k := 13 + s.command.bytes + s.loopBytes) (by rw [s.fieldsFlat_length]),
    overwrite_placeholder, Signal.bodyFlat, Signal.sectionLength, ← Nat.add_assoc, ← Nat.add_assoc]

theorem Signal.bodyFlat_length (s : Signal) : s.bodyFlat.length = 8 * (s.sectionLength - 1) := by
  simp only [Signal.bodyFlat, List.length_append, putBits_length, s.fieldsFlat_length, Signal.sectionLength]
  omega

def Command.wf : Command → Bool
  | .null => true
  | .insert s => s.wf
  | .timeSignal t => t.wf

/-- every field inside its bit width, `encrypted_packet` clear (the encoder never
writes `E_CRC_32`), command and descriptors well formed, `section_length` fits -/
def Signal.wf (s : Signal) : Bool :=
  decide (s.tableId < 2 ^ 8) && decide (s.sapType < 2 ^ 2) && decide (s.protocolVersion < 2 ^ 8) &&
  !s.encryptedPacket && decide (s.encryptionAlgorithm < 2 ^ 6) && decide (s.ptsAdjustment < 2 ^ 33) &&
  decide (s.cwIndex < 2 ^ 8) && decide (s.tier < 2 ^ 12) && s.command.wf &&
  s.descriptors.all Descriptor.wf && decide (s.sectionLength < 2 ^ 12)

/-- the section's fields are read back from `bodyFlat` followed by any 32 bits -/
theorem Signal.parseRd_flat (s : Signal) (h : s.wf = true) (C : Bits) (hC : C.length = 32) :
    Reads Signal.parseRd (s.bodyFlat ++ C)
      { sig := s, sectionLength := s.sectionLength, spliceCommandLength := s.command.bytes,
        spliceCommandType := s.command.type, descriptorLoopLength := s.loopBytes,
        descriptorLengths := s.descriptors.map (fun d => 4 + d.bodyBytes),
        crc := bitsToNat C, crcValid := false } := by
  simp only [Signal.wf, Bool.and_eq_true, decide_eq_true_eq, Bool.not_eq_true'] at h
  obtain ⟨⟨⟨⟨⟨⟨⟨⟨⟨⟨htid, hsap⟩, hpv⟩, henc⟩, halg⟩, hadj⟩, hcw⟩, htier⟩, hcmd⟩, hds⟩, hsl⟩ := h
  have hcb : s.command.bytes < 2 ^ 12 := by unfold Signal.sectionLength at hsl; omega
  have hlb : s.loopBytes < 2 ^ 16 := by unfold Signal.sectionLength at hsl; omega
  have hty : s.command.type < 2 ^ 8 := by cases s.command <;> simp only [Command.type] <;> decide
  unfold Signal.bodyFlat Signal.fieldsFlat
  simp only [↓List.append_assoc, putBits_one_bool]
  unfold Signal.parseRd
  refine .bind (.get htid) fun _ => .bind .bool fun _ => .bind .bool fun _ => .bind (.get hsap) fun _ =>
    .bind (.get hsl) fun _ => .bind (.get hpv) fun _ => .bind .bool fun _ => .bind (.get halg) fun _ =>
    .bind (.get hadj) fun _ => .bind (.get hcw) fun _ => .bind (.get htier) fun _ => .bind (.get hcb) fun _ =>
    .bind (.get hty) fun _ => .bind (v := s.command) ?_ fun _ => .bind (.get hlb) fun _ =>
    .bind (descriptors_read _ hds) fun _ => ?_
  · revert hcmd
    cases s.command <;> intro hcmd
    · exact .ite_neg (by decide) <| .ite_neg (by decide) <| .ite_neg (by decide) (.pure _)
    · exact .ite_neg (by simp [Command.type]) <| .ite_pos rfl <|
        .map Command.insert (SpliceInsert.parse_enc _ hcmd)
    · exact .ite_neg (by simp [Command.type]) <| .ite_neg (by simp [Command.type]) <| .ite_pos rfl <|
        .map Command.timeSignal (SpliceTime.parse_enc _ hcmd)
  · -- `encrypted_packet` is clear: no `E_CRC_32` in front of the CRC.  That step binds a bare reader,
    -- not a pair, so no `Reads` lemma fits it: it is rewritten away
    have henc' : (s.encryptedPacket = true) = False := by rw [henc, Bool.false_eq_true]
    simp only [henc', if_false, Option.bind_eq_bind, Option.bind_some]
    exact .bind_last (.raw hC) fun _ _ => by simp only [List.map_map, Function.comp_def, List.map_id']

section
open DashLive.Events

/-- the PTS `create_binary_signal` puts into the splice: `pt·90000 // timescale`, 33 bits -/
def schedPts (s : Sched) (pt : Int) : Nat := (Int.fmod (pydiv (pt * 90000) s.timescale) (2 ^ 33)).toNat

/-- the break duration in 90 kHz ticks -/
def schedBreak (s : Sched) : Nat := (pydiv (s.duration * 90000) s.timescale).toNat

theorem fmod_two_cases (x : Int) : (Int.fmod x 2).toNat = 0 ∨ (Int.fmod x 2).toNat = 1 := by
  rw [Int.fmod_eq_emod_of_nonneg x (by decide : (0:Int) ≤ 2)]
  have := Int.emod_two_eq x
  omega

theorem schedPts_cast (s : Sched) (pt : Int) :
    (schedPts s pt : Int) = pydiv (pt * 90000) s.timescale % 2 ^ 33 := by
  unfold schedPts
  rw [Int.fmod_eq_emod_of_nonneg _ (by decide : (0:Int) ≤ 2 ^ 33)]
  exact Int.toNat_of_nonneg (Int.emod_nonneg _ (by decide))

theorem schedPts_lt (s : Sched) (pt : Int) : schedPts s pt < 2 ^ 33 := by
  have := schedPts_cast s pt
  have := Int.emod_lt_of_pos (pydiv (pt * 90000) s.timescale) (by decide : (0:Int) < 2 ^ 33)
  omega

/-- the shape of every signal `create_binary_signal` builds -/
def eventSignal (eid pts dur pid an ae parity : Nat) (ar : Bool) : Signal :=
  { tableId := 0xFC, sectionSyntaxIndicator := false, privateIndicator := false, sapType := 0,
    protocolVersion := 0, encryptedPacket := false, encryptionAlgorithm := 0, ptsAdjustment := 0,
    cwIndex := 0xFF, tier := 0xFFF,
    command := .insert
      { eventId := eid, cancel := false, outOfNetwork := true, immediate := false,
        spliceTime := some ⟨some pts⟩, components := [], breakDuration := some ⟨ar, dur⟩,
        uniqueProgramId := pid, availNum := an, availsExpected := ae },
    descriptors := [.segmentation 0x43554549
      { eventId := an, cancel := false, deliveryNotRestricted := true, webDeliveryAllowed := true,
        noRegionalBlackout := true, archiveAllowed := true, deviceRestrictions := 3, duration := some 0,
        upidType := 0x0F, upid := [], typeId := 0x34 + parity, segmentNum := 0, segmentsExpected := 0,
        subSegmentNum := 0, subSegmentsExpected := 0 }] }

theorem eventSignal_wf (eid pts dur pid an ae parity : Nat) (ar : Bool)
    (h1 : eid < 2 ^ 32) (h2 : pts < 2 ^ 33) (h3 : dur < 2 ^ 33) (h4 : pid < 2 ^ 16) (h5 : an < 2 ^ 8)
    (h6 : ae < 2 ^ 8) (hp : parity = 0 ∨ parity = 1) :
    (eventSignal eid pts dur pid an ae parity ar).wf = true := by
  have h5' : an < 2 ^ 32 := by omega
  rcases hp with rfl | rfl <;>
  simp [eventSignal, Signal.wf, Command.wf, SpliceInsert.wf, SpliceTime.wf, BreakDuration.wf, Descriptor.wf,
    SegDesc.wf, hasSubSegments, Signal.sectionLength, Command.bytes, Signal.loopBytes, Descriptor.bodyBytes,
    Descriptor.flat, Descriptor.encFields, SegDesc.encFields, Command.enc, SpliceInsert.enc, SpliceTime.enc,
    BreakDuration.enc, Descriptor.identifier, putBytes, h1, h2, h3, h4, h5, h5', h6]

theorem createBinarySignal_spec (s : Sched) (programId eventId pt : Int) (sig : Signal)
    (h : createBinarySignal s programId eventId pt = some sig) :
    sig.wf = true ∧ 0 ≤ eventId ∧
    ∃ si, sig.command = .insert si ∧ si.eventId = eventId.toNat ∧
      si.spliceTime = some ⟨some (schedPts s pt)⟩ ∧
      si.breakDuration = some ⟨Int.fmod eventId 2 == 0, schedBreak s⟩ := by
  simp only [createBinarySignal] at h
  -- the two avail numbers enter only through their bounds
  have hae : (if s.count > 0 ∧ pydiv s.count 2 < 255 then 1 + pydiv s.count 2 else 0).toNat < 2 ^ 8 := by
    split <;> omega
  generalize (if s.count > 0 ∧ pydiv s.count 2 < 255 then 1 + pydiv s.count 2 else 0) = ae at h hae
  generalize (if s.count > 0 ∧ pydiv s.count 2 < 255 then 1 + pydiv eventId 2 else 0) = an at h
  split at h
  · cases h
  · rename_i hg
    simp only [not_or, Int.not_lt, Int.not_le] at hg
    obtain ⟨-, hid0, hid1, hd0, hd1, hp0, hp1, han⟩ := hg
    cases h
    exact ⟨eventSignal_wf eventId.toNat _ _ programId.toNat _ _ _ _ (by omega) (schedPts_lt s pt)
      (by omega) (by omega) (by omega) hae (fmod_two_cases eventId), hid0, _, rfl, rfl, rfl, rfl⟩

end

end DashLive.Scte35
