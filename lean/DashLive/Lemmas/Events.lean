import DashLive.Model.Events
/-! Lemmas for C14 about `Model/Events.lean`, in three parts: the schedule (integer ranges, the
Galois connection between `firstIdx` and `evTime`, the loop invariant of `create_emsg_boxes` and the
value of `createEmsg`); the byte codec of the emsg box; the decimal text of the integer options. -/
namespace DashLive.Events

theorem idsFrom_add (lo : Int) (m n : Nat) :
    idsFrom lo (m + n) = idsFrom lo m ++ idsFrom (lo + m) n := by
  induction m generalizing lo with
  | zero => simp [idsFrom]
  | succ m ih =>
    have e : m + 1 + n = (m + n) + 1 := by omega
    rw [e]
    have e2 : lo + 1 + (m : Int) = lo + ((m + 1 : Nat) : Int) := by omega
    simp only [idsFrom, List.cons_append, ih, e2]

theorem mem_idsFrom (lo : Int) (n : Nat) (k : Int) :
    k ∈ idsFrom lo n ↔ lo ≤ k ∧ k < lo + n := by
  induction n generalizing lo with
  | zero => simp only [idsFrom, List.not_mem_nil, false_iff]; omega
  | succ n ih =>
    simp only [idsFrom, List.mem_cons, ih]
    omega

theorem idsFrom_sorted (lo : Int) (n : Nat) : List.Pairwise (· < ·) (idsFrom lo n) := by
  induction n generalizing lo with
  | zero => simp [idsFrom]
  | succ n ih =>
    simp only [idsFrom, List.pairwise_cons]
    refine ⟨?_, ih _⟩
    intro k hk
    rw [mem_idsFrom] at hk
    omega

theorem idRange_empty {lo hi : Int} (h : hi ≤ lo) : idRange lo hi = [] := by
  unfold idRange
  have : (hi - lo).toNat = 0 := by omega
  rw [this]; rfl

theorem idRange_cons {lo hi : Int} (h : lo < hi) : idRange lo hi = lo :: idRange (lo + 1) hi := by
  unfold idRange
  have : (hi - lo).toNat = (hi - (lo + 1)).toNat + 1 := by omega
  rw [this]; rfl

theorem idRange_add (lo : Int) (n : Nat) : idRange lo (lo + n) = idsFrom lo n := by
  unfold idRange; rw [Int.add_comm, Int.add_sub_cancel, Int.toNat_natCast]

theorem idRange_append {a b c : Int} (h1 : a ≤ b) (h2 : b ≤ c) :
    idRange a b ++ idRange b c = idRange a c := by
  obtain ⟨n, rfl⟩ := Int.le.dest h1
  obtain ⟨m, rfl⟩ := Int.le.dest h2
  rw [idRange_add, idRange_add, Int.add_assoc, ← Int.natCast_add, idRange_add, idsFrom_add]

theorem mem_idRange {lo hi k : Int} : k ∈ idRange lo hi ↔ lo ≤ k ∧ k < hi := by
  unfold idRange
  rw [mem_idsFrom]
  omega

theorem evTime_succ (s : Sched) (k : Int) : evTime s k + s.interval = evTime s (k + 1) := by
  simp only [evTime, Int.add_mul, Int.one_mul, Int.add_assoc]

theorem pydiv_pos (a : Int) {i : Int} (h : 0 < i) : pydiv a i = a / i :=
  Int.fdiv_eq_ediv_of_nonneg a (Int.le_of_lt h)

theorem firstIdx_nonneg (s : Sched) (hi : 0 < s.interval) (x : Int) : 0 ≤ firstIdx s x := by
  unfold firstIdx
  split
  · exact Int.le_refl 0
  · apply Int.ediv_nonneg <;> omega

/-- **Galois connection**: `firstIdx x` is the least index `k ≥ 0` with `x ≤ evTime k` -/
theorem firstIdx_le_iff (s : Sched) (hi : 0 < s.interval) (x k : Int) (hk : 0 ≤ k) :
    firstIdx s x ≤ k ↔ x ≤ evTime s k := by
  have hm : 0 ≤ k * s.interval := Int.mul_nonneg hk (Int.le_of_lt hi)
  unfold firstIdx evTime
  split
  · constructor
    · intro _; omega
    · intro _; exact hk
  · rw [Int.ediv_le_iff_le_mul hi]
    omega

theorem lt_firstIdx_iff (s : Sched) (hi : 0 < s.interval) (x k : Int) (hk : 0 ≤ k) :
    k < firstIdx s x ↔ evTime s k < x := by
  rw [← Int.not_le, firstIdx_le_iff s hi x k hk, Int.not_le]

theorem evTime_lt (s : Sched) (hi : 0 < s.interval) {j k : Int} (h : j < k) : evTime s j < evTime s k := by
  have := Int.mul_lt_mul_of_pos_right h hi
  unfold evTime; omega

theorem firstIdx_evTime (s : Sched) (hi : 0 < s.interval) (k : Int) (hk : 0 ≤ k) :
    firstIdx s (evTime s k) = k := by
  have hf := firstIdx_nonneg s hi (evTime s k)
  apply Int.le_antisymm ((firstIdx_le_iff s hi _ k hk).mpr (Int.le_refl _))
  exact Int.not_lt.mp fun h =>
    Int.not_le.mpr (evTime_lt s hi h) ((firstIdx_le_iff s hi _ _ hf).mp (Int.le_refl _))

theorem firstIdx_mono (s : Sched) (hi : 0 < s.interval) {x y : Int} (h : x ≤ y) :
    firstIdx s x ≤ firstIdx s y := by
  have fy := firstIdx_nonneg s hi y
  exact (firstIdx_le_iff s hi x _ fy).mpr
    (Int.le_trans h ((firstIdx_le_iff s hi y _ fy).mp (Int.le_refl _)))

/-- the bound behind `emsgFuel` -/
theorem firstIdx_le_fuel (s : Sched) (hi : 0 < s.interval) (b : Int) (hb : s.start < b) :
    firstIdx s b ≤ (b - s.start) / s.interval + 1 := by
  unfold firstIdx
  rw [if_neg (by omega), ← Int.add_mul_ediv_right _ 1 (by omega : s.interval ≠ 0)]
  exact Int.ediv_le_ediv hi (by omega)

/-- the id the loop starts from (lines 99-102) is not past the first event of the segment -/
theorem startIdx_le (s : Sched) (hi : 0 < s.interval) (a : Int) (h : a > s.start) :
    (a - s.start) / s.interval ≤ firstIdx s a := by
  unfold firstIdx
  rw [if_neg (by omega)]
  exact Int.ediv_le_ediv hi (by omega)

theorem cap_of_pos {s : Sched} (h : s.count > 0) (k : Int) : cap s k = min k s.count := if_pos h

theorem cap_mono (s : Sched) {j k : Int} (h : j ≤ k) : cap s j ≤ cap s k := by
  unfold cap; split <;> omega

theorem cap_le (s : Sched) (k : Int) : cap s k ≤ k := by
  unfold cap; split <;> omega

theorem cap_le_count (s : Sched) (k : Int) (h : s.count > 0) : cap s k ≤ s.count := by
  rw [cap_of_pos h]; omega

theorem cap_nonneg (s : Sched) {k : Int} (h : 0 ≤ k) : 0 ≤ cap s k := by
  unfold cap; split <;> omega

theorem lt_cap (s : Sched) {j k : Int} (h : j < k) (hc : ¬ (s.count > 0 ∧ j ≥ s.count)) : j < cap s k := by
  unfold cap; split <;> omega

/-- Loop invariant/result: started at event `id ≥ 0` with
`presentation_time = evTime id` and enough fuel, the loop returns exactly the
events `k ≥ id` with `a ≤ evTime k < b` and `k < count` (when `count > 0`). -/
theorem emsgLoop_spec (s : Sched) (hi : 0 < s.interval) (a b : Int) :
    ∀ (fuel : Nat) (id : Int), 0 ≤ id → 0 < fuel → firstIdx s b < id + fuel →
      emsgLoop s a b fuel id (evTime s id) =
        some ((idRange (max id (firstIdx s a)) (cap s (firstIdx s b))).map fun k => ⟨k, evTime s k⟩) := by
  intro fuel
  induction fuel with
  | zero => intro id _ h; cases h
  | succ fuel ih =>
    intro id hid _ hfuel
    unfold emsgLoop
    -- each test on `evTime s id` is a comparison of `id` with `firstIdx s b` / `firstIdx s a` (Galois connection)
    by_cases h1 : evTime s id < b
    · have hlt : id < firstIdx s b := (lt_firstIdx_iff s hi b id hid).mpr h1
      have ih := ih (id + 1) (by omega) (by omega) (by omega)
      rw [if_neg (not_not_intro h1)]
      by_cases h2 : s.count > 0 ∧ id ≥ s.count
      · have := cap_le_count s (firstIdx s b) h2.1
        rw [if_pos h2, idRange_empty (by omega)]; rfl
      · rw [if_neg h2]
        by_cases h3 : evTime s id < a
        · have : id < firstIdx s a := (lt_firstIdx_iff s hi a id hid).mpr h3
          rw [if_pos h3, evTime_succ, ih, Int.max_eq_right this, Int.max_eq_right (Int.le_of_lt this)]
        · have : firstIdx s a ≤ id := (firstIdx_le_iff s hi a id hid).mpr (Int.not_lt.mp h3)
          rw [if_neg h3, Int.max_eq_left this, idRange_cons (lt_cap s hlt h2)]
          by_cases h4 : s.count > 0 ∧ id + 1 ≥ s.count
          · have := cap_le_count s (firstIdx s b) h4.1
            rw [if_pos h4, idRange_empty (by omega)]; rfl
          · rw [if_neg h4, evTime_succ, ih, Int.max_eq_left (by omega)]; rfl
    · have : firstIdx s b ≤ id := (firstIdx_le_iff s hi b id hid).mpr (Int.not_lt.mp h1)
      have := cap_le s (firstIdx s b)
      rw [if_pos h1, idRange_empty (by omega)]; rfl

theorem scheduled_of_start_ge (s : Sched) (hi : 0 < s.interval) (a b : Int) (h : s.start ≥ b) :
    scheduled s a b = [] := by
  have : firstIdx s b = 0 := by unfold firstIdx; rw [if_pos h]
  have := cap_nonneg s (firstIdx_nonneg s hi a)
  have := cap_le s (firstIdx s b)
  rw [scheduled, idRange_empty (by omega)]; rfl

theorem scheduled_of_ended (s : Sched) (hi : 0 < s.interval) (a b : Int)
    (h : s.count > 0 ∧ s.start + s.count * s.interval < a) : scheduled s a b = [] := by
  have : s.count < firstIdx s a := (lt_firstIdx_iff s hi a s.count (by omega)).mpr h.2
  rw [scheduled, cap_of_pos h.1, cap_of_pos h.1, idRange_empty (by omega)]; rfl

/-- `e0`: the id of lines 99-102 -/
theorem emsgLoop_start (s : Sched) (hi : 0 < s.interval) (a b : Int) (h1 : ¬ s.start ≥ b) (e0 : Int)
    (he : (if a > s.start then pydiv (a - s.start) s.interval else 0) = e0) :
    0 ≤ e0 ∧ emsgLoop s a b (emsgFuel s b) e0 (s.start + e0 * s.interval) = some (scheduled s a b) := by
  have h0 : 0 ≤ e0 ∧ e0 ≤ firstIdx s a := by
    subst he; split
    · rename_i ha
      rw [pydiv_pos _ hi]; exact ⟨Int.ediv_nonneg (by omega) (by omega), startIdx_le s hi a ha⟩
    · exact ⟨Int.le_refl 0, firstIdx_nonneg s hi a⟩
  have hfuel : 0 < emsgFuel s b ∧ firstIdx s b < e0 + emsgFuel s b := by
    have := firstIdx_le_fuel s hi b (by omega)
    have : 0 ≤ (b - s.start) / s.interval := Int.ediv_nonneg (by omega) (by omega)
    unfold emsgFuel; omega
  -- capping the lower bound as well does not change the range: above `count` both are empty
  have hlo : idRange (firstIdx s a) (cap s (firstIdx s b)) =
      idRange (cap s (firstIdx s a)) (cap s (firstIdx s b)) := by
    by_cases h : s.count > 0 ∧ s.count < firstIdx s a
    · rw [cap_of_pos h.1, cap_of_pos h.1, idRange_empty (by omega), idRange_empty (by omega)]
    · have : cap s (firstIdx s a) = firstIdx s a := by unfold cap; split <;> omega
      rw [this]
  refine ⟨h0.1, (emsgLoop_spec s hi a b _ e0 h0.1 hfuel.1 hfuel.2).trans ?_⟩
  rw [Int.max_eq_right h0.2, hlo]; rfl

/-- **`create_emsg_boxes` computes the schedule restricted to the segment**, unless a guard refuses -/
theorem emsgEvents_spec (s : Sched) (a b : Int) :
    emsgEvents s a b (emsgFuel s b) =
      if s.inband = false then .ok []
      else if s.interval < 1 ∨ (b - a) / s.interval > maxEventsPerSegment then .valueError
      else .ok (scheduled s a b) := by
  unfold emsgEvents
  cases hin : s.inband with
  | false => rfl
  | true =>
    simp only [Bool.not_true, Bool.false_eq_true, Bool.true_eq_false, if_false]
    by_cases hi : s.interval < 1
    · rw [if_pos hi, if_pos (Or.inl hi)]
    · have hi' : 0 < s.interval := by omega
      rw [if_neg hi, pydiv_pos _ hi']
      by_cases hmax : (b - a) / s.interval > maxEventsPerSegment
      · rw [if_pos hmax, if_pos (Or.inr hmax)]
      · rw [if_neg hmax, if_neg (not_or.mpr ⟨hi, hmax⟩)]
        by_cases h1 : s.start ≥ b
        · rw [if_pos h1, scheduled_of_start_ge s hi' a b h1]
        · rw [if_neg h1]
          by_cases h2 : s.count > 0 ∧ s.start + s.count * s.interval < a
          · rw [if_pos h2, scheduled_of_ended s hi' a b h2]
          · rw [if_neg h2]
            generalize he : (if a > s.start then pydiv (a - s.start) s.interval else 0) = e0
            obtain ⟨h0, hl⟩ := emsgLoop_start s hi' a b h1 e0 he
            rw [if_neg (Int.not_lt.mpr h0), hl]

/-- **what `create_emsg_boxes` returns**, for every schedule, timescale and segment -/
theorem createEmsg_eq (s : Sched) (repTs : Int) (g : Seg) :
    createEmsg s repTs g =
      if s.inband = false then .ok []
      else if s.interval < 1 ∨
          (segEnd s repTs g - segStart s repTs g) / s.interval > maxEventsPerSegment then .valueError
      else .ok ((scheduled s (segStart s repTs g) (segEnd s repTs g)).map
        (mkEmsg s (segStart s repTs g))) := by
  simp only [createEmsg, emsgEvents_spec]
  by_cases h1 : s.inband = false
  · rw [if_pos h1, if_pos h1]; rfl
  · rw [if_neg h1, if_neg h1]
    by_cases h2 : s.interval < 1 ∨
        (segEnd s repTs g - segStart s repTs g) / s.interval > maxEventsPerSegment
    · rw [if_pos h2, if_pos h2]
    · rw [if_neg h2, if_neg h2]

theorem mem_cap_range (s : Sched) (hi : 0 < s.interval) (a b k : Int) :
    k ∈ idRange (cap s (firstIdx s a)) (cap s (firstIdx s b)) ↔
      0 ≤ k ∧ a ≤ evTime s k ∧ evTime s k < b ∧ (s.count > 0 → k < s.count) := by
  have hcap : ∀ i j : Int, cap s i ≤ k ∧ k < cap s j ↔ i ≤ k ∧ k < j ∧ (s.count > 0 → k < s.count) := by
    intro i j; unfold cap; split <;> omega
  rw [mem_idRange, hcap]
  constructor
  · intro ⟨h1, h2, h3⟩
    have hk : 0 ≤ k := Int.le_trans (firstIdx_nonneg s hi a) h1
    exact ⟨hk, (firstIdx_le_iff s hi a k hk).mp h1, (lt_firstIdx_iff s hi b k hk).mp h2, h3⟩
  · intro ⟨hk, h1, h2, h3⟩
    exact ⟨(firstIdx_le_iff s hi a k hk).mpr h1, (lt_firstIdx_iff s hi b k hk).mpr h2, h3⟩

theorem scheduled_ids (s : Sched) (a b : Int) :
    (scheduled s a b).map (·.id) = idRange (cap s (firstIdx s a)) (cap s (firstIdx s b)) := by
  unfold scheduled
  rw [List.map_map]
  exact List.map_id _

theorem scheduled_append (s : Sched) (hi : 0 < s.interval) {a b c : Int} (h1 : a ≤ b) (h2 : b ≤ c) :
    scheduled s a b ++ scheduled s b c = scheduled s a c := by
  unfold scheduled
  rw [← List.map_append, idRange_append (cap_mono s (firstIdx_mono s hi h1)) (cap_mono s (firstIdx_mono s hi h2))]

/-- fields inside the widths of the box layout, strings without NUL, the box
size fits its 32-bit field -/
def EmsgBox.wf (b : EmsgBox) : Prop :=
  (b.version = 0 ∨ b.version = 1) ∧ b.flags < 256 ^ 3 ∧ (∀ c ∈ b.scheme, c ≠ 0) ∧ (∀ c ∈ b.value, c ≠ 0) ∧
  b.timescale < 256 ^ 4 ∧ (b.version = 0 → b.time < 256 ^ 4) ∧ (b.version = 1 → b.time < 256 ^ 8) ∧
  b.duration < 256 ^ 4 ∧ b.id < 256 ^ 4 ∧ (encodeEmsgPayload b).length + 8 < 256 ^ 4

theorem beBytes_length (n v : Nat) : (beBytes n v).length = n := by
  induction n generalizing v with
  | zero => rfl
  | succ n ih => simp [beBytes, ih]

theorem beNat_append_single (l : Bytes) (x : UInt8) : beNat (l ++ [x]) = beNat l * 256 + x.toNat := by
  simp [beNat, List.foldl_append]

theorem beNat_beBytes (n v : Nat) (h : v < 256 ^ n) : beNat (beBytes n v) = v := by
  induction n generalizing v with
  | zero => simp [Nat.pow_zero] at h; subst h; rfl
  | succ n ih =>
    have h1 : v / 256 < 256 ^ n := by
      rw [Nat.pow_succ] at h
      exact Nat.div_lt_of_lt_mul (by rw [Nat.mul_comm]; exact h)
    have h2 : (UInt8.ofNat (v % 256)).toNat = v % 256 := by
      simp
    rw [beBytes, beNat_append_single, ih _ h1, h2]
    omega

theorem takeN_append (l1 rest : Bytes) (n : Nat) (h : l1.length = n) :
    takeN n (l1 ++ rest) = some (l1, rest) := by
  unfold takeN
  rw [if_neg (by simp [h]), List.take_left' h, List.drop_left' h]

theorem takeN_beBytes (n v : Nat) (rest : Bytes) : takeN n (beBytes n v ++ rest) = some (beBytes n v, rest) :=
  takeN_append _ _ n (beBytes_length n v)

theorem readCStr_append (s rest : Bytes) (h : ∀ c ∈ s, c ≠ 0) :
    readCStr (s ++ ([0] ++ rest)) = some (s, rest) := by
  induction s with
  | nil => simp [readCStr]
  | cons c s ih =>
    rw [List.cons_append, readCStr, if_neg (h c List.mem_cons_self),
      ih fun x hx => h x (List.mem_cons_of_mem _ hx)]

/-- one step of a `do` block in `Option`.  (`parseEmsg` compares the length of what remains with the
size field and returns the remainder as `data`: it is no prefix reader in the sense of `Bits.Reads`.) -/
theorem bind_of_eq_some {α β : Type} {o : Option α} {k : α → Option β} {v : α} {w : Option β}
    (h : o = some v) (hk : k v = w) : (o >>= k) = w := by
  rw [h]; exact hk

theorem ite_of_pos {α : Type} {c : Prop} [Decidable c] {a b w : α} (hc : c) (h : a = w) :
    (if c then a else b) = w := (if_pos hc).trans h

theorem ite_of_neg {α : Type} {c : Prop} [Decidable c] {a b w : α} (hc : ¬c) (h : b = w) :
    (if c then a else b) = w := (if_neg hc).trans h

theorem digitVal_digitChar : ∀ d, d < 10 → digitVal (Nat.digitChar d) = some d := by decide
theorem digitChar_ne_us : ∀ d, d < 10 → Nat.digitChar d ≠ '_' := by decide
theorem digitChar_not_ws : ∀ d, d < 10 → isPyWs (Nat.digitChar d) = false := by decide
theorem digitChar_not_sign : ∀ d, d < 10 →
    Nat.digitChar d ≠ '-' ∧ Nat.digitChar d ≠ '+' ∧ Nat.digitChar d ≠ 'n' := by decide

def IsDigits (l : List Char) : Prop := ∀ c ∈ l, ∃ d, d < 10 ∧ c = Nat.digitChar d

theorem readDigits_single (d : Nat) (hd : d < 10) (acc : Nat) (prev : Bool) :
    readDigits [Nat.digitChar d] acc prev = some (acc * 10 + d) := by
  simp [readDigits, digitVal_digitChar d hd, digitChar_ne_us d hd]

theorem readDigits_snoc (l : List Char) (hl : IsDigits l) (hne : l ≠ []) (d : Nat) (hd : d < 10) :
    ∀ (acc : Nat) (prev : Bool) (v : Nat), readDigits l acc prev = some v →
      readDigits (l ++ [Nat.digitChar d]) acc prev = some (v * 10 + d) := by
  induction l with
  | nil => exact absurd rfl hne
  | cons c cs ih =>
    intro acc prev v h
    obtain ⟨e, he, rfl⟩ := hl _ List.mem_cons_self
    have hcs : IsDigits cs := fun x hx => hl x (List.mem_cons_of_mem _ hx)
    simp only [List.cons_append, readDigits, digitChar_ne_us e he, if_false, digitVal_digitChar e he] at h ⊢
    by_cases hn : cs = []
    · subst hn
      simp only [readDigits, if_true] at h
      injection h with h; subst h
      exact readDigits_single d hd _ _
    · exact ih hcs hn _ _ _ h

theorem readDigits_toDigits (n : Nat) :
    IsDigits (Nat.toDigits 10 n) ∧ readDigits (Nat.toDigits 10 n) 0 false = some n := by
  induction n using Nat.strongRecOn with
  | _ n ih =>
    by_cases h : n < 10
    · rw [Nat.toDigits_of_lt_base h]
      refine ⟨?_, ?_⟩
      · intro c hc; simp at hc; exact ⟨n, h, hc⟩
      · rw [readDigits_single n h]; simp
    · have hle : 10 ≤ n := by omega
      rw [Nat.toDigits_of_base_le (by decide) hle]
      obtain ⟨h1, h3⟩ := ih (n / 10) (by omega)
      have hm : n % 10 < 10 := Nat.mod_lt _ (by decide)
      refine ⟨?_, ?_⟩
      · intro c hc
        rw [List.mem_append] at hc
        rcases hc with hc | hc
        · exact h1 c hc
        · simp at hc; exact ⟨n % 10, hm, hc⟩
      · rw [readDigits_snoc _ h1 Nat.toDigits_ne_nil _ hm _ _ _ h3]
        congr 1; omega

theorem IsDigits.not_ws {l : List Char} (hl : IsDigits l) : ∀ c ∈ l, isPyWs c = false := by
  intro c hc
  obtain ⟨e, he, rfl⟩ := hl c hc
  exact digitChar_not_ws e he

theorem strip_eq (t : List Char) (h : ∀ c ∈ t, isPyWs c = false) :
    ((t.dropWhile isPyWs).reverse.dropWhile isPyWs).reverse = t := by
  have hd : ∀ m : List Char, (∀ c ∈ m, isPyWs c = false) → m.dropWhile isPyWs = m := by
    intro m hm
    cases m with
    | nil => rfl
    | cons c cs => exact List.dropWhile_cons_of_neg (by rw [hm c List.mem_cons_self]; decide)
  rw [hd t h, hd _ fun c hc => h c (List.mem_reverse.mp hc), List.reverse_reverse]

theorem pyInt_digits (l : List Char) (hl : IsDigits l) :
    pyInt l = (readDigits l 0 false).map fun n => (n : Int) := by
  unfold pyInt
  simp only [strip_eq l hl.not_ws]
  cases l with
  | nil => rfl
  | cons c cs =>
    obtain ⟨e, he, rfl⟩ := hl _ List.mem_cons_self
    have := digitChar_not_sign e he
    simp only [this.1, this.2.1, if_false]

theorem pyInt_neg_digits (l : List Char) (hl : IsDigits l) :
    pyInt ('-' :: l) = (readDigits l 0 false).map fun n => -(n : Int) := by
  unfold pyInt
  simp only [strip_eq ('-' :: l) fun c hc => by
    rcases List.mem_cons.mp hc with rfl | hc
    · decide
    · exact hl.not_ws c hc, if_true]

/-- `int(str(z), 10) = z`: what `evopt_exact` and `evopt_interval_exact` (Props/C14) rest on -/
theorem pyInt_decimalOf (z : Int) : pyInt (decimalOf z) = some z := by
  unfold decimalOf
  split
  · obtain ⟨h1, h3⟩ := readDigits_toDigits z.natAbs
    rw [pyInt_neg_digits _ h1, h3]; simp; omega
  · obtain ⟨h1, h3⟩ := readDigits_toDigits z.toNat
    rw [pyInt_digits _ h1, h3]; simp; omega

theorem decimalOf_ne (z : Int) : decimalOf z ≠ [] ∧ decimalOf z ≠ ['n', 'o', 'n', 'e'] := by
  unfold decimalOf
  split
  · exact ⟨by simp, by simp⟩
  · refine ⟨Nat.toDigits_ne_nil, fun h => ?_⟩
    obtain ⟨e, he, hc⟩ := (readDigits_toDigits z.toNat).1 'n' (by rw [h]; exact List.mem_cons_self)
    exact (digitChar_not_sign e he).2.2 hc.symm

end DashLive.Events
