import DashLive.Model.Inject
import DashLive.Model.OptionErrors
/-! Lemmas for `Props/C16.lean`.  `checkLoop`, `checkValues`, `manifestStatus` and `mediaStatus` are
chains of early exits; each has a motive-form case lemma with one premise per exit
(`checkLoop_cons_cases`, `*_exits`), and the theorems about it are instances: the caller gives `P`
and a line per premise.  `step_eq` carries what is known of `checkLoop` to requests.  Besides:
which exception classes the option codecs raise; fuel enough for `get_segment_index`. -/

namespace DashLive

/-- Peels one stage off a chain of `if … then exit else …` (`cases h : discr` does it for a
`match`); `split` re-simplifies the whole rest of the chain, its cost doubles per stage. -/
theorem ite_cases {α : Type} {P : α → Prop} {c : Prop} [Decidable c] {a b : α}
    (ha : c → P a) (hb : ¬ c → P b) : P (if c then a else b) := by
  by_cases h : c
  · rw [if_pos h]; exact ha h
  · rw [if_neg h]; exact hb h

end DashLive

namespace DashLive.Inject

/-! The vocabulary of `inject_exact` and `foreign_*` (`Props/C16.lean`). -/

/-- the handler's position test of request `r` -/
def hits (r : Req) (pos : Pos) : Bool :=
  match r.usage with
  | .manifest => manifestHit r.seg r.clock pos
  | _ => mediaHit r.seg pos

def isTarget (u : Usage) (c : Int) (pos : Pos) (N : Nat) (r : Req) : Bool :=
  decide (r.usage = u ∧ r.spec.errsFor u = [(c, pos)] ∧ r.spec.failures = some (N : Int))

def Foreign (u : Usage) (c : Int) (r : Req) : Prop := ∀ st, (step r st).2 u c = st u c

def countHits (u : Usage) (c : Int) (pos : Pos) (N : Nat) (l : List Req) : Nat :=
  (l.filter fun r => isTarget u c pos N r && hits r pos).length

/-- the `k`-th hit (counting from 0) of a position with `failures = N` is answered with
the synthetic error iff `k mod (N+1) < N`: `N` failures, one success, and again -/
def fails (N k : Nat) : Bool := decide (k % (N + 1) < N)

theorem set_same {st : Store} {u : Usage} {c : Int} {v : Nat} : (st.set u c v) u c = v := by
  simp [Store.set]

theorem set_other (st : Store) (u u' : Usage) (c c' : Int) (v : Nat) (h : ¬ (u' = u ∧ c' = c)) :
    (st.set u c v) u' c' = st u' c' := by
  simp [Store.set, h]

theorem set_set (st : Store) (u : Usage) (c : Int) (v w : Nat) :
    (st.set u c v).set u c w = st.set u c w := by
  funext u' c'
  unfold Store.set
  split <;> rfl

/-- an entry that is counted (`pass`, `fail`) is not one answered without counting (`plain`) -/
theorem counted_not_plain {c n : Int} {f : Option Int} (hc : c ≥ 500) (hf : f = some n) :
    ¬ (c < 500 ∨ f = none) := by
  rintro (h | h)
  · omega
  · rw [hf] at h; cases h

section checkLoop
variable (u : Usage) (hit : Pos → Bool) (f : Option Int)

/-- one entry of the loop; `pass`: counted past `failures`, counter back to 0, next entry -/
theorem checkLoop_cons_cases (c : Int) (pos : Pos) (rest : List (Int × Pos)) (st : Store)
    {P : Option Int × Store → Prop}
    (miss : hit pos = false → P (checkLoop u hit f rest st))
    (plain : hit pos = true → c < 500 ∨ f = none → P (some c, st))
    (pass : ∀ n : Int, hit pos = true → c ≥ 500 → f = some n → ((st u c + 1 : Nat) : Int) > n →
      P (checkLoop u hit f rest (st.set u c 0)))
    (fail : ∀ n : Int, hit pos = true → c ≥ 500 → f = some n → ¬ ((st u c + 1 : Nat) : Int) > n →
      P (some c, st.set u c (st u c + 1))) :
    P (checkLoop u hit f ((c, pos) :: rest) st) := by
  unfold checkLoop
  cases hh : hit pos
  · exact miss hh
  · cases f with
    | none => exact plain hh (.inr rfl)
    | some n =>
      by_cases hc : c ≥ 500
      · simp only [Bool.not_true, Bool.false_eq_true, if_false, hc, if_true, incr, reset, set_set]
        exact ite_cases (pass n hh hc rfl) (fail n hh hc rfl)
      · simp only [Bool.not_true, Bool.false_eq_true, if_false, hc]
        exact plain hh (.inl (by omega))

variable {u hit f}

/-- a synthetic status is the code of an entry that is hit -/
theorem checkLoop_some {code : Int} {errs : List (Int × Pos)} {st : Store}
    (h : (checkLoop u hit f errs st).1 = some code) : ∃ pos, (code, pos) ∈ errs ∧ hit pos = true := by
  induction errs generalizing st with
  | nil => cases h
  | cons e rest ih =>
    let P (r : Option Int × Store) : Prop :=
      r.1 = some code → ∃ pos, (code, pos) ∈ e :: rest ∧ hit pos = true
    have tail : ∀ st', P (checkLoop u hit f rest st') := fun st' h =>
      (ih h).imp fun _ hp => ⟨List.mem_cons_of_mem _ hp.1, hp.2⟩
    have head : hit e.2 = true → ∀ st', P (some e.1, st') := fun hh _ hc =>
      ⟨e.2, Option.some.inj hc ▸ List.mem_cons_self .., hh⟩
    exact checkLoop_cons_cases u hit f e.1 e.2 rest st (P := P) (fun _ => tail st)
      (fun hh _ => head hh st) (fun _ _ _ _ _ => tail _) (fun _ hh _ _ _ => head hh _) h

/-- the counter `(u', c')` keeps its value when no hit entry with code `c'` is counted -/
theorem checkLoop_frame {u' : Usage} {c' : Int} {errs : List (Int × Pos)} {st : Store}
    (h : u' = u → ∀ e ∈ errs, e.1 = c' → hit e.2 = true → c' < 500 ∨ f = none) :
    (checkLoop u hit f errs st).2 u' c' = st u' c' := by
  induction errs generalizing st with
  | nil => rfl
  | cons e rest ih =>
    have tail : ∀ st', (checkLoop u hit f rest st').2 u' c' = st' u' c' := fun st' =>
      ih fun hu e he => h hu e (List.mem_cons_of_mem _ he)
    have other : ∀ n : Int, hit e.2 = true → e.1 ≥ 500 → f = some n → ∀ v,
        (st.set u e.1 v) u' c' = st u' c' := fun n hh hc hf v =>
      set_other _ _ _ _ _ _ fun ⟨hu, hc'⟩ =>
        counted_not_plain hc hf (hc' ▸ h hu e (List.mem_cons_self ..) hc'.symm hh)
    exact checkLoop_cons_cases u hit f e.1 e.2 rest st (P := fun r => r.2 u' c' = st u' c')
      (fun _ => tail st) (fun _ _ => rfl)
      (fun n hh hc hf _ => (tail _).trans (other n hh hc hf 0))
      (fun n hh hc hf _ => other n hh hc hf _)

end checkLoop

theorem checkLoop_single (u : Usage) (hit : Pos → Bool) (c : Int) (pos : Pos) (N : Nat)
    (hc : c ≥ 500) (st : Store) :
    checkLoop u hit (some (N : Int)) [(c, pos)] st =
      bif hit pos then
        if st u c < N then (some c, st.set u c (st u c + 1)) else (none, st.set u c 0)
      else (none, st) := by
  refine checkLoop_cons_cases u hit _ c pos [] st (P := (· = _)) (fun hh => by rw [hh]; rfl)
    (fun _ h => (counted_not_plain hc rfl h).elim) ?_ ?_
  · intro n hh _ hn hgt
    cases hn
    rw [hh, cond_true, if_neg (by omega)]; rfl
  · intro n hh _ hn hgt
    cases hn
    rw [hh, cond_true, if_pos (by omega)]

theorem succ_mod_cycle (m N : Nat) :
    (m + 1) % (N + 1) = if m % (N + 1) < N then m % (N + 1) + 1 else 0 := by
  have hlt := Nat.mod_lt m (Nat.succ_pos N)
  rw [← Nat.mod_add_mod]
  generalize m % (N + 1) = r at hlt
  split
  · exact Nat.mod_eq_of_lt (by omega)
  · obtain rfl : r = N := by omega
    exact Nat.mod_self _

theorem step_eq (r : Req) (st : Store) :
    step r st = checkLoop r.usage (hits r) r.spec.failures (r.spec.errsFor r.usage) st := by
  unfold step hits
  cases r.usage <;> rfl

theorem step_frame (r : Req) (st : Store) (u : Usage) (c : Int)
    (h : u = r.usage → ∀ e ∈ r.spec.errsFor r.usage, e.1 = c → hits r e.2 = true →
      c < 500 ∨ r.spec.failures = none) :
    (step r st).2 u c = st u c := by
  rw [step_eq]
  exact checkLoop_frame h

section target
variable (u : Usage) (c : Int) (pos : Pos) (N : Nat)

theorem countHits_cons (r : Req) (l : List Req) :
    countHits u c pos N (r :: l) =
      (bif (isTarget u c pos N r && hits r pos) then 1 else 0) + countHits u c pos N l := by
  unfold countHits
  rw [List.filter_cons]
  cases isTarget u c pos N r && hits r pos
  · exact (Nat.zero_add _).symm
  · exact Nat.add_comm _ 1

theorem step_target (hc : c ≥ 500) (r : Req) (ht : isTarget u c pos N r = true) (st : Store)
    (m : Nat) (hst : st u c = m % (N + 1)) :
    (step r st).1 = (bif (hits r pos && fails N m) then some c else none) ∧
    (step r st).2 u c = (m + (bif hits r pos then 1 else 0)) % (N + 1) := by
  obtain ⟨hu, he, hf⟩ := of_decide_eq_true ht
  rw [step_eq, hu, he, hf, checkLoop_single u (hits r) c pos N hc st]
  cases hits r pos
  · exact ⟨rfl, hst⟩
  · rw [cond_true, hst, fails, cond_true, succ_mod_cycle]
    -- with `hst` the test of `checkLoop_single` is the test of `succ_mod_cycle`
    by_cases hlt : m % (N + 1) < N
    · rw [if_pos hlt, if_pos hlt, decide_eq_true hlt]
      exact ⟨rfl, set_same⟩
    · rw [if_neg hlt, if_neg hlt, decide_eq_false hlt]
      exact ⟨rfl, set_same⟩

/-- the counting law of `inject_exact`, from any store whose counter is `m % (N+1)` -/
theorem run_target (hc : c ≥ 500) :
    ∀ (rs : List Req) (st : Store) (m : Nat), st u c = m % (N + 1) →
      (∀ r ∈ rs, isTarget u c pos N r = false → Foreign u c r) →
      ∀ (i : Nat) (r : Req), rs[i]? = some r → isTarget u c pos N r = true →
        (run rs st)[i]? = some
          (bif (hits r pos && fails N (m + countHits u c pos N (rs.take i)))
           then some c else none) := by
  intro rs
  induction rs with
  | nil => intro st m _ _ i r h; simp at h
  | cons r0 rs ih =>
    intro st m hst hF i r hi ht
    cases i with
    | zero =>
      cases hi
      exact congrArg some (step_target u c pos N hc r0 ht st m hst).1
    | succ i =>
      have h2 : (step r0 st).2 u c =
          (m + bif (isTarget u c pos N r0 && hits r0 pos) then 1 else 0) % (N + 1) := by
        cases ht0 : isTarget u c pos N r0
        · rw [hF r0 (List.mem_cons_self ..) ht0 st]; exact hst
        · exact (step_target u c pos N hc r0 ht0 st m hst).2
      rw [run, List.getElem?_cons_succ, List.take_succ_cons, countHits_cons, ← Nat.add_assoc]
      exact ih _ _ h2 (fun r hr => hF r (List.mem_cons_of_mem _ hr)) i r hi ht

end target

/-- The fuel: one pass over the segments left, the wrap to the next repetition (which starts at
`o + R`, beyond `tc`), and the iteration that stops there. -/
theorem gsiLoop_some (durs : List Nat) (R tc : Nat) :
    ∀ (fuel m s o : Nat), tc < o + R → durs.length - m + 2 ≤ fuel →
      (gsiLoop durs R tc fuel m s o).isSome = true := by
  intro fuel
  induction fuel with
  | zero => intro m s o _ hf; omega
  | succ f ih =>
    intro m s o h hf
    unfold gsiLoop
    split
    · split
      · cases f with
        | zero => exact (Nat.not_succ_le_zero _ (Nat.le_of_succ_le_succ hf)).elim
        | succ f' =>
          unfold gsiLoop
          rw [if_neg (Nat.not_lt.mpr (Nat.le_trans (Nat.le_of_lt h) (Nat.le_add_right _ _)))]
          rfl
      · exact ih _ _ o h (by omega)
    · rfl

theorem getSegmentIndex_found (durs : List Nat) (R tc : Nat) (hR : 0 < R) {fuel : Nat}
    (hf : durs.length + 2 ≤ fuel) : ∃ m s o, getSegmentIndex durs R tc fuel = .found m s o := by
  unfold getSegmentIndex
  rw [if_neg (by omega)]
  dsimp only
  have := gsiLoop_some durs R tc fuel 0 (tc / R * R) (tc / R * R) (Nat.lt_div_mul_add hR) (by omega)
  cases h : gsiLoop durs R tc fuel 0 (tc / R * R) (tc / R * R) with
  | none => rw [h] at this; cases this
  | some r => exact ⟨_, _, _, rfl⟩

end DashLive.Inject

namespace DashLive.OptionErrors
open DashLive.Options

theorem mapM_error {ε α β : Type} {f : α → Except ε β} {l : List α} {e : ε}
    (h : l.mapM f = .error e) : ∃ a ∈ l, f a = .error e := by
  induction l with
  | nil => cases h
  | cons a r ih =>
    rw [List.mapM_cons] at h
    cases ha : f a with
    | error e' =>
      rw [ha] at h
      cases h
      exact ⟨a, List.mem_cons_self .., ha⟩
    | ok b =>
      rw [ha] at h
      cases hr : r.mapM f with
      | error e' =>
        rw [hr] at h
        cases h
        exact (ih hr).imp fun _ hx => ⟨List.mem_cons_of_mem _ hx.1, hx.2⟩
      | ok bs => rw [hr] at h; cases h

theorem map_eq_error {ε α β : Type} {f : α → β} {r : Except ε α} {e : ε} :
    r.map f = .error e ↔ r = .error e := by
  cases r <;> simp [Except.map]

/-- the codecs' shape `if isNone s then .ok none else …` -/
theorem ite_ok_eq_error {ε α : Type} {c : Prop} [Decidable c] {a : α} {r : Except ε α} {e : ε}
    (h : (if c then .ok a else r) = .error e) : r = .error e := by
  split at h
  · cases h
  · exact h

section
variable {DT : Type} (C : DTCodec DT)

theorem intOrNone_not_key (s : Bytes) : intOrNone s ≠ .error .keyError := by
  intro h
  have h' := ite_ok_eq_error h
  split at h' <;> cases h'

theorem parseDT_not_key (s : Bytes) : parseDT C s ≠ .error .keyError := by
  intro h
  have h' := ite_ok_eq_error h
  split at h' <;> cases h'

theorem errItem_not_key (item : Bytes) : errItem C item ≠ .error .keyError := by
  intro h
  unfold errItem at h
  split at h
  · rename_i code pos _
    cases hp : pyInt pos with
    | some p =>
      simp only [hp] at h
      split at h <;> cases h
    | none =>
      cases hd : parseDT C pos with
      | error e =>
        simp only [hp, hd] at h
        cases h
        exact parseDT_not_key C pos hd
      | ok od =>
        simp only [hp, hd] at h
        split at h <;> cases h
  · cases h

/-- `KeyError` comes out of a registered `from_string` only for the DRM selection
(`DrmLocation.from_string` in the `all-<loc>` form) -/
theorem fromString_key_only_drm (k : Kind) (s : Bytes) (h : fromString C k s = .error .keyError) :
    k = .drmSelection := by
  have hint := intOrNone_not_key s
  cases k with
  | drmSelection => rfl
  | bool | strOrNone | strRaw | listJoin | quotedUrl => cases h
  | intOrNone | intOrDefault d => exact absurd (map_eq_error.mp h) hint
  | floatOrNone =>
    have h' := ite_ok_eq_error h
    split at h' <;> cases h'
  | astDateTime | dtOrNone => exact absurd (map_eq_error.mp (ite_ok_eq_error h)) (parseDT_not_key C s)
  | errorList =>
    obtain ⟨item, _, hi⟩ := mapM_error (map_eq_error.mp (ite_ok_eq_error h))
    exact absurd hi (errItem_not_key C item)
  | posIntOrDefault d =>
    simp only [fromString] at h
    split at h
    · rename_i hi
      cases h
      exact absurd hi hint
    · cases h
    · split at h <;> cases h

theorem fromStringX_cases (k : Kind) (s : Bytes) :
    (∃ v, fromStringX C k s = .ok v) ∨ fromStringX C k s = .error .valueError ∨
      (fromStringX C k s = .error .keyError ∧ k = .drmSelection) := by
  unfold fromStringX
  split
  · split
    · exact .inl ⟨_, rfl⟩
    · split
      · exact .inl ⟨_, rfl⟩
      · exact .inr (.inl rfl)
  · cases hf : fromString C k s with
    | ok v => exact .inl ⟨v, rfl⟩
    | error e =>
      cases e with
      | valueError => exact .inr (.inl rfl)
      | keyError => exact .inr (.inr ⟨rfl, fromString_key_only_drm C k s hf⟩)

theorem convertStepX_cases (tbl : List OptionRow) (acc : Nat → Val DT) (kv : Bytes × Bytes) :
    (∃ o, convertStepX C tbl acc kv = .ok o) ∨ convertStepX C tbl acc kv = .error .valueError := by
  unfold convertStepX
  split
  · exact .inl ⟨_, rfl⟩
  · split
    · exact .inl ⟨_, rfl⟩
    · rename_i r _
      rcases fromStringX_cases C r.kind kv.2 with ⟨v, hv⟩ | hv | ⟨hv, _⟩ <;> rw [hv]
      · exact .inl ⟨_, rfl⟩
      · exact .inr rfl
      · exact .inl ⟨_, rfl⟩

end

section
variable (C : DTCodec IsoClass)

theorem corruptItem_error (item : Bytes) (e : Exc) (h : corruptItem C item = .error e) :
    e = .valueError := by
  unfold corruptItem at h
  split at h
  · cases h
  · split at h
    · rename_i e' hp
      cases h
      cases e' with
      | valueError => rfl
      | keyError => exact absurd hp (parseDT_not_key C item)
    · cases h
    · cases h

theorem checkValues_exits (tbl : List OptionRow) (dfltAst : Val IsoClass) (o : Nat → Val IsoClass)
    {P : Except Exc (Nat → Val IsoClass) → Prop} (refused : P (.error .valueError))
    (passed : ∀ ast, drmNamesOk tbl o = true → utcMethodOk tbl o = true →
      P (.ok (setStart tbl o ast))) :
    P (checkValues C tbl dfltAst o) := by
  unfold checkValues
  refine ite_cases (fun _ => refused) fun h1 => ite_cases (fun _ => refused) fun h2 => ?_
  cases ha : astCheck dfltAst (field tbl o "start") with
  | error e =>
    unfold astCheck at ha
    split at ha <;> cases ha <;> exact refused
  | ok ast =>
    cases hm : (listItems (field tbl o "vcorrupt")).mapM (corruptItem C) with
    | error e =>
      obtain ⟨item, _, hi⟩ := mapM_error hm
      cases corruptItem_error C item e hi
      exact refused
    | ok cps =>
      exact ite_cases (fun _ => refused) fun _ => ite_cases (fun _ => refused) fun _ =>
        ite_cases (fun _ => refused) fun _ => passed ast (by simpa using h1) (by simpa using h2)

theorem checkValues_ok {tbl : List OptionRow} {d : Val IsoClass} {o o' : Nat → Val IsoClass}
    (h : checkValues C tbl d o = .ok o') : drmNamesOk tbl o = true ∧ utcMethodOk tbl o = true :=
  checkValues_exits C tbl d o (P := fun r => r = .ok o' → drmNamesOk tbl o = true ∧ utcMethodOk tbl o = true)
    (fun h => by cases h) (fun _ h1 h2 _ => ⟨h1, h2⟩) h

end

theorem Call.not_raised {c : Call} {e : Exc} (h : c.quiet = true) : c ≠ .raised e := by
  rintro rfl
  cases h

/-! Every way the handlers' decision models end, with no hypothesis on the world: `quiet`,
`rangeStatusOk` and what is known of `parse` only select among these exits.  `(P := …)` is not
inferred (nor for `checkValues_exits`): give it. -/

theorem manifestStatus_exits (k : ManifestKind) (w : ManifestWorld) (parse : Except Exc Unit)
    {P : Nat → Prop} (h200 : P 200) (h400 : P 400) (h404 : P 404)
    (hparse : ∀ st, guarded parse = .error st → P st)
    (hinj : ∀ c, k = .single → w.injected = some c → P c)
    (hctx : ∀ e, w.context = .raised e → P (escapes e))
    (hren : ∀ e, w.render = .raised e → P (escapes e)) :
    P (manifestStatus k w parse) := by
  unfold manifestStatus
  refine ite_cases (fun _ => h404) fun _ => ite_cases (fun _ => h404) fun _ =>
    ite_cases (fun _ => h404) fun _ => ite_cases (fun _ => h400) fun _ => ?_
  cases hg : guarded parse with
  | error st => exact hparse st hg
  | ok u =>
    cases u
    refine ite_cases (fun _ => h400) fun _ => ite_cases (fun _ => h404) fun _ => ?_
    cases hc : w.context with
    | raised e => exact hctx e hc
    | refused => exact h404
    | ok =>
      refine ite_cases (fun _ => h404) fun _ => ?_
      cases hi : (if k = .single then w.injected else none) with
      | some c =>
        by_cases hk : k = .single
        · rw [if_pos hk] at hi; exact hinj c hk hi
        · rw [if_neg hk] at hi; cases hi
      | none =>
        cases hr : w.render with
        | ok => exact h200
        | refused => exact h404
        | raised e => exact hren e hr

theorem mediaStatus_exits (w : MediaWorld) (parse : Except Exc Unit) {P : Nat → Prop}
    (h200 : P 200) (h400 : P 400) (h404 : P 404)
    (hparse : ∀ st, guarded parse = .error st → P st)
    (hinj : ∀ c, w.injected = some c → P c)
    (hlookup : ∀ e, w.lookup = .raised e → P (escapes e))
    (hbuild : ∀ e, w.build = .raised e → P (escapes e))
    (hevents : ∀ e, w.events = .raised e → P (escapes e))
    (hrange : ∀ st, w.range = .ok st → P st) :
    P (mediaStatus w parse) := by
  unfold mediaStatus
  refine ite_cases (fun _ => h404) fun _ => ite_cases (fun _ => h404) fun _ => ?_
  cases hg : guarded parse with
  | error st => exact hparse st hg
  | ok u =>
    cases u
    refine ite_cases (fun _ => h404) fun _ => ite_cases (fun _ => h404) fun _ =>
      ite_cases (fun _ => h404) fun _ => ite_cases (fun _ => h404) fun _ => ?_
    cases hi : w.injected with
    | some c => exact hinj c hi
    | none =>
      refine ite_cases (fun _ => ?_) fun _ => ?_
      · cases hb : w.build with
        | ok => exact h200
        | refused => exact h404
        | raised e => exact hbuild e hb
      cases hl : w.lookup with
      | raised e => exact hlookup e hl
      | refused => exact h404
      | ok =>
        cases hb : w.build with
        | raised e => exact hbuild e hb
        | refused => exact h404
        | ok =>
          cases he : w.events with
          | raised e => exact hevents e he
          | refused => exact h400
          | ok =>
            cases hr : w.range with
            | error _ => exact h400
            | ok st => exact hrange st hr

end DashLive.OptionErrors
