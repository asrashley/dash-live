import DashLive.Lemmas.Segments
/-! `generateSegmentTimeline`: the run-length encoded `<S>` list expands to a
contiguous slice of the global segment sequence.  The loop is the encoder `rle` run over its raw sequence
(`tlLoop_rle`; the Period loop of C12 is the same encoder) and `expand_rle` undoes the encoding, which gives
`tlLoop_expand`; `rawLoop_slice` identifies what is left with `sliceG`; `expand_timelineLive` composes the two and is the
equation the property theorems start from). -/
namespace DashLive.Segments

/-- advertised duration of stored segment `m` (0-based) -/
def advDur (durs : List Nat) (drift : Int) (m : Nat) : Int :=
  (durAt durs m : Int) + (if m + 1 = durs.length then drift else 0)

def nextM (n m : Nat) : Nat := if m + 1 ≥ n then 0 else m + 1

theorem nextM_lt {n m : Nat} (hn : 0 < n) : nextM n m < n := by
  unfold nextM; split <;> omega

/-- the plain sequence of durations the `while dur < end` loop iterates over -/
def rawLoop (durs : List Nat) (drift end_ : Int) : Nat → Int → Nat → List Int
  | 0, _, _ => []
  | f+1, dur, m =>
    if dur < end_ then
      advDur durs drift m :: rawLoop durs drift end_ f (dur + advDur durs drift m) (nextM durs.length m)
    else []

def accumulate : Int → List Int → List (Int × Int)
  | _, [] => []
  | t, d :: ds => (t, d) :: accumulate (t + d) ds

theorem accumulate_snd (t : Int) (ds : List Int) : (accumulate t ds).map (·.2) = ds := by
  induction ds generalizing t with
  | nil => rfl
  | cons d ds ih => simp [accumulate, ih]

theorem accumulate_length (t : Int) (ds : List Int) : (accumulate t ds).length = ds.length := by
  rw [← List.length_map (·.2), accumulate_snd]

/-- end time of an `<S>` list that starts (when the first node has no `t`) at `t` -/
def endTime : Int → List SNode → Int
  | t, [] => t
  | t, s :: rest => endTime (s.start.getD t + s.count * s.dur.getD 0) rest

theorem expandFrom_append (t : Int) (a b : List SNode) :
    expandFrom t (a ++ b) = expandFrom t a ++ expandFrom (endTime t a) b := by
  induction a generalizing t with
  | nil => simp [expandFrom, endTime]
  | cons s rest ih => simp [expandFrom, endTime, ih]

theorem endTime_append (t : Int) (a b : List SNode) :
    endTime t (a ++ b) = endTime (endTime t a) b := by
  induction a generalizing t with
  | nil => simp [endTime]
  | cons s rest ih => simp [endTime, ih]

theorem expandFrom_single_succ (t : Int) (s : SNode) (d : Int) (hd : s.dur = some d) :
    expandFrom t [{ s with count := s.count + 1 }]
      = expandFrom t [s] ++ [(s.start.getD t + s.count * d, d)] := by
  simp [expandFrom, hd, List.range_succ]

theorem endTime_single_succ (t : Int) (s : SNode) (d : Int) (hd : s.dur = some d) :
    endTime t [{ s with count := s.count + 1 }] = endTime t [s] + d := by
  simp only [endTime, hd, Option.getD_some]
  push_cast
  rw [Int.add_mul, Int.one_mul]
  omega

/-- the run-length step of the `<S>` generators: whether `d` extends the current node or opens a new
one, the expansion gains the one entry `(end so far, d)` -/
theorem expandFrom_step (t0 d dc : Int) (cur : SNode) (acc : List SNode) (hc : cur.dur = some dc) :
    let p := if some d ≠ cur.dur then (SNode.fresh, outputNode acc cur) else (cur, acc)
    expandFrom t0 (p.2 ++ [{ p.1 with dur := some d, count := p.1.count + 1 }])
        = expandFrom t0 (acc ++ [cur]) ++ [(endTime t0 (acc ++ [cur]), d)] ∧
      endTime t0 (p.2 ++ [{ p.1 with dur := some d, count := p.1.count + 1 }])
        = endTime t0 (acc ++ [cur]) + d := by
  by_cases hsame : some d ≠ cur.dur
  · simp only [if_pos hsame]
    simp [outputNode, hc, expandFrom_append, endTime_append, expandFrom, endTime, SNode.fresh]
  · have hceq : cur.dur = some d := (Decidable.of_not_not hsame).symm
    have hcur : ({ cur with dur := some d, count := cur.count + 1 } : SNode)
        = { cur with count := cur.count + 1 } := by rw [← hceq]
    simp only [hsame, if_false, hcur, expandFrom_append, endTime_append,
      expandFrom_single_succ _ _ _ hceq, endTime_single_succ _ _ _ hceq, List.append_assoc]
    simp [endTime, hceq]

/-- the run-length encoder both `<S>` loops are: the durations `ds` taken up one by one by the node being
filled, the first of them opening the list at `t` -/
def rle (t : Int) : List Int → SNode → List SNode → List SNode
  | [], cur, acc => outputNode acc cur
  | d :: ds, cur, acc =>
    let p := if cur.dur.isNone then ({ cur with start := some t }, acc)
      else if some d ≠ cur.dur then (SNode.fresh, outputNode acc cur) else (cur, acc)
    rle t ds { p.1 with dur := some d, count := p.1.count + 1 } p.2

/-- once a node is being filled: the finished nodes and the current one, then `ds` accumulated from where
they end -/
theorem expandFrom_rle (t t0 : Int) : ∀ (ds : List Int) (cur : SNode) (acc : List SNode) (dc : Int),
    cur.dur = some dc →
    expandFrom t0 (rle t ds cur acc)
      = expandFrom t0 (acc ++ [cur]) ++ accumulate (endTime t0 (acc ++ [cur])) ds := by
  intro ds
  induction ds with
  | nil => intro cur acc dc hc; simp [rle, accumulate, outputNode, hc]
  | cons d ds ih =>
    intro cur acc dc hc
    obtain ⟨e1, e2⟩ := expandFrom_step t0 d dc cur acc hc
    unfold rle
    simp only [hc, Option.isNone_some, Bool.false_eq_true, if_false] at e1 e2 ⊢
    rw [ih _ _ _ rfl, e1, e2]
    simp [accumulate]

/-- **what the encoded list means** (DASH expansion): the durations, accumulated from `t` -/
theorem expand_rle (t : Int) (ds : List Int) : expand (rle t ds SNode.fresh []) = accumulate t ds := by
  unfold expand
  cases ds with
  | nil => simp [rle, accumulate, outputNode, SNode.fresh, expandFrom]
  | cons d ds =>
    -- only the first step meets `cur.dur = none`; it sets `t`
    unfold rle
    simp only [SNode.fresh, Option.isNone_none, if_true]
    rw [expandFrom_rle t 0 _ _ [] _ rfl]
    simp [expandFrom, endTime, accumulate, List.range_succ]

/-- one iteration, with the model's inline expressions named (`advDur`, `nextM`, the `let` pair as `p`) -/
theorem tlLoop_succ (durs : List Nat) (drift segStart end_ : Int) (f : Nat) (dur : Int) (m : Nat)
    (cur : SNode) (acc : List SNode) :
    tlLoop durs drift segStart end_ (f+1) dur m cur acc =
      if dur < end_ then
        let d := advDur durs drift m
        let p := if dur = 0 then ({ cur with start := some segStart }, acc)
          else if some d ≠ cur.dur then (SNode.fresh, outputNode acc cur) else (cur, acc)
        tlLoop durs drift segStart end_ f (dur + d) (nextM durs.length m)
          { p.1 with dur := some d, count := p.1.count + 1 } p.2
      else outputNode acc cur := rfl

/-- the loop run-length encodes its raw sequence; its test for the first iteration, `dur = 0`, is the
encoder's `cur.dur = none` -/
theorem tlLoop_rle (durs : List Nat) (drift segStart end_ : Int)
    (hpos : ∀ m, m < durs.length → 0 < advDur durs drift m) :
    ∀ fuel (dur : Int) m (cur : SNode) (acc : List SNode), m < durs.length → 0 ≤ dur →
      (dur = 0 ↔ cur.dur.isNone = true) →
      tlLoop durs drift segStart end_ fuel dur m cur acc
        = rle segStart (rawLoop durs drift end_ fuel dur m) cur acc := by
  intro fuel
  induction fuel with
  | zero => intro dur m cur acc _ _ _; rfl
  | succ f ih =>
    intro dur m cur acc hm hdur hc
    rw [tlLoop_succ]
    unfold rawLoop
    by_cases hlt : dur < end_
    · have hp := hpos m hm
      simp only [if_pos hlt, hc, rle]
      exact ih _ _ _ _ (nextM_lt (by omega)) (by omega) ⟨fun h => by omega, fun h => by cases h⟩
    · simp only [if_neg hlt, rle]

/-- **timeline = raw loop**: with positive advertised durations, what the `<S>`
list means (DASH expansion) is exactly the sequence of durations the loop walked
over, accumulated from `segStart`. -/
theorem tlLoop_expand (durs : List Nat) (drift segStart end_ : Int)
    (hpos : ∀ m, m < durs.length → 0 < advDur durs drift m) (fuel m : Nat) (hm : m < durs.length) :
    expand (tlLoop durs drift segStart end_ fuel 0 m SNode.fresh [])
      = accumulate segStart (rawLoop durs drift end_ fuel 0 m) := by
  rw [tlLoop_rle durs drift segStart end_ hpos fuel 0 m _ _ hm (Int.le_refl 0) ⟨fun _ => rfl, fun _ => rfl⟩,
    expand_rle]

theorem nextM_mod {n g : Nat} (hn : 0 < n) : nextM n (g % n) = (g + 1) % n := by
  unfold nextM
  have := Nat.mod_lt g hn
  split
  · exact (succ_mod_of_eq hn (by omega)).1.symm
  · exact (succ_mod_of_lt (by omega)).1.symm

theorem advDur_eq_durG' (durs : List Nat) (R g : Nat) :
    advDur durs ((R : Int) - (durs.sum : Int)) (g % durs.length) = durG' durs R g := by
  unfold advDur durG' durG; rfl

def AdvPositive (durs : List Nat) (R : Nat) : Prop :=
  ∀ m, m < durs.length → 0 < advDur durs ((R : Int) - (durs.sum : Int)) m

theorem advPositive_durG' {durs : List Nat} {R : Nat} (hn : 0 < durs.length) (h : AdvPositive durs R) :
    ∀ g, 0 < durG' durs R g := by
  intro g
  have := h (g % durs.length) (Nat.mod_lt _ hn)
  rwa [advDur_eq_durG'] at this

/-- slice of the global sequence: positions `g, g+1, …` as `(start, advertised duration)` -/
def sliceG (durs : List Nat) (R : Nat) : Nat → Nat → List (Int × Int)
  | _, 0 => []
  | g, k+1 => ((startG durs R g : Int), durG' durs R g) :: sliceG durs R (g + 1) k

theorem sliceG_eq_map (durs : List Nat) (R g k : Nat) :
    sliceG durs R g k
      = (List.range k).map fun i => ((startG durs R (g + i) : Int), durG' durs R (g + i)) := by
  induction k generalizing g with
  | zero => rfl
  | succ k ih => simp [sliceG, ih, List.range_succ_eq_map, Nat.add_assoc, Nat.add_comm 1]

theorem sliceG_length (durs : List Nat) (R g k : Nat) : (sliceG durs R g k).length = k := by
  simp [sliceG_eq_map]

theorem sliceG_get (durs : List Nat) (R : Nat) :
    ∀ g k i (h : i < (sliceG durs R g k).length),
      (sliceG durs R g k)[i] = ((startG durs R (g + i) : Int), durG' durs R (g + i)) := by
  simp [sliceG_eq_map]

/-- accumulated from `startG g`, the raw loop from stored segment `g % n` is the slice from position `g` -/
theorem rawLoop_slice (durs : List Nat) (R : Nat) (end_ : Int) (hn : 0 < durs.length) :
    ∀ fuel (dur : Int) g,
      accumulate (startG durs R g : Int)
        (rawLoop durs ((R : Int) - (durs.sum : Int)) end_ fuel dur (g % durs.length))
      = sliceG durs R g (rawLoop durs ((R : Int) - (durs.sum : Int)) end_ fuel dur (g % durs.length)).length := by
  intro fuel
  induction fuel with
  | zero => intro dur g; rfl
  | succ f ih =>
    intro dur g
    unfold rawLoop
    split
    · rw [accumulate, List.length_cons, sliceG, advDur_eq_durG', nextM_mod hn,
        ← startG_succ durs R g hn, ih]
    · rfl

/-- sum of the raw durations reaches the end of the window when fuel suffices -/
theorem rawLoop_covers (durs : List Nat) (drift end_ : Int)
    (hpos : ∀ m, m < durs.length → 0 < advDur durs drift m) :
    ∀ (fuel : Nat) (dur : Int) m, m < durs.length → end_ - dur ≤ (fuel : Int) →
      end_ ≤ dur + (rawLoop durs drift end_ fuel dur m).sum := by
  intro fuel
  induction fuel with
  | zero => intro dur m _ h; simp [rawLoop]; omega
  | succ f ih =>
    intro dur m hm h
    unfold rawLoop
    split
    · have hp := hpos m hm
      have := ih (dur + advDur durs drift m) (nextM durs.length m) (nextM_lt (by omega)) (by omega)
      rw [List.sum_cons]
      omega
    · rw [List.sum_nil]
      omega

/-- the loop stops as soon as the end is reached: without its last duration it stays short of it -/
theorem rawLoop_minimal (durs : List Nat) (drift end_ : Int) :
    ∀ fuel (dur : Int) m, (rawLoop durs drift end_ fuel dur m) ≠ [] →
      dur + ((rawLoop durs drift end_ fuel dur m).dropLast).sum < end_ := by
  intro fuel
  induction fuel with
  | zero => intro dur m h; simp [rawLoop] at h
  | succ f ih =>
    intro dur m h
    unfold rawLoop at h ⊢
    by_cases hlt : dur < end_
    · simp only [hlt, if_true] at h ⊢
      by_cases hr : rawLoop durs drift end_ f (dur + advDur durs drift m) (nextM durs.length m) = []
      · rw [hr]; simp; exact hlt
      · rw [List.dropLast_cons_of_ne_nil hr, List.sum_cons]
        have := ih (dur + advDur durs drift m) (nextM durs.length m) hr
        omega
    · simp [hlt] at h

/-- the live timeline is the slice from `index tcF`, as long as the generator loop ran -/
theorem expand_timelineLive (durs : List Nat) (R ts tcF tsbd fuel : Nat) (hn : 0 < durs.length)
    (hpos : AdvPositive durs R) :
    expand (timelineLive durs R ts tcF tsbd fuel) = sliceG durs R (index durs R tcF)
      (rawLoop durs ((R : Int) - (durs.sum : Int)) ((tsbd * ts : Nat) : Int) fuel 0
        (index durs R tcF % durs.length)).length := by
  unfold timelineLive
  rw [getSegmentIndex_eq durs R tcF hn]
  simp only [Nat.add_sub_cancel]
  rw [tlLoop_expand durs _ _ _ hpos _ _ (Nat.mod_lt _ hn), rawLoop_slice durs R _ hn]

/-- entry `i` of the live timeline is position `index tcF + i` of the global sequence -/
theorem timelineLive_get (durs : List Nat) (R ts tcF tsbd fuel : Nat) (hn : 0 < durs.length)
    (hpos : AdvPositive durs R) :
    ∀ i (h : i < (expand (timelineLive durs R ts tcF tsbd fuel)).length),
      (expand (timelineLive durs R ts tcF tsbd fuel))[i]
        = ((startG durs R (index durs R tcF + i) : Int), durG' durs R (index durs R tcF + i)) := by
  simp only [expand_timelineLive durs R ts tcF tsbd fuel hn hpos, sliceG_get, implies_true]

end DashLive.Segments

#print axioms DashLive.Segments.sliceG_length
#print axioms DashLive.Segments.sliceG_get
#print axioms DashLive.Segments.advPositive_durG'
