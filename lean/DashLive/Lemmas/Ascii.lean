import DashLive.Model.Options
/-! Reading names in the kernel, for sweeps over tables of string literals.  The kernel evaluates
`String.toList` of a literal (hence `ascii`) by decoding its UTF-8 bytes again (`ByteArray.utf8Decode?`,
well-founded recursion: some 12 000 heartbeats a character); the bytes alone (`utf8`) cost a fifth of that.
Use: `rw [ascii_eq_fast]` (after unfolding down to `ascii`), then evaluate; or check the bytes and conclude
about `ascii` by `ascii_eq_utf8`.  Closed equations in `Except` (codec results, `globalDefault C table i`)
close by `rfl`, not `decide`: `Except` has no `DecidableEq`. -/
namespace DashLive.Options

def utf8 (s : String) : Bytes := s.toByteArray.data.toList

def asciiFast (s : String) : Bytes := if (utf8 s).all (· < 128) then utf8 s else ascii s

theorem utf8EncodeChar_of_all_lt (c : Char) (h : ∀ b ∈ String.utf8EncodeChar c, b < 128) :
    String.utf8EncodeChar c = [UInt8.ofNat c.toNat] := by
  unfold String.utf8EncodeChar at h ⊢
  simp only at h ⊢
  split
  · rfl
  · -- the first byte of a longer encoding is `0xc0`, `0xe0` or `0xf0` plus something small
    exfalso
    repeat' split at h
    all_goals
      have := h _ (List.mem_cons_self ..)
      simp [UInt8.lt_iff_toNat_lt] at this
      omega

theorem ascii_eq_utf8 (s : String) (h : ∀ b ∈ utf8 s, b < 128) : ascii s = utf8 s := by
  unfold utf8 ascii at *
  rw [← String.utf8Encode_toList, List.utf8Encode, List.toList_data_toByteArray] at h ⊢
  generalize s.toList = l at h ⊢
  induction l with
  | nil => rfl
  | cons c l ih =>
    simp only [List.flatMap_cons, List.mem_append] at h
    rw [List.flatMap_cons, List.map_cons, ih fun b hb => h b (Or.inr hb),
      utf8EncodeChar_of_all_lt c fun b hb => h b (Or.inl hb)]
    rfl

theorem ascii_eq_fast : ascii = asciiFast := by
  funext s
  unfold asciiFast
  split
  · rename_i h
    exact ascii_eq_utf8 s fun b hb => of_decide_eq_true (List.all_eq_true.mp h b hb)
  · rfl

/-- The kernel keeps the value of a closed `Nat` term, so deciding `Nodup` of these keys reads each text
once; `Nodup` of the texts reads them at each comparison. -/
def natKey (bs : Bytes) : Nat := bs.foldl (fun a b => a * 256 + b.toNat) 1

theorem nodup_of_map {α β : Type} (g : α → β) {l : List α} (h : (l.map g).Nodup) : l.Nodup :=
  List.Pairwise.of_map g (fun _ _ hab e => hab (by rw [e])) h

end DashLive.Options
