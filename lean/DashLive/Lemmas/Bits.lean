import DashLive.Model.Bits
/-! The bit writer/reader of `Model/Bits.lean`.  `Reads f l v`: the parser `f` reads the value `v`
off the bits `l`; a record's round trip `Reads X.parse x.enc x` is one `Reads.bind` per field of its
layout.  Recipe (`Lemmas/Scte35.lean`): destructure the record and its `wf`; `unfold X.enc` and
re-associate to the right with `simp only [↓List.append_assoc, putBits_one_bool]` (`Reads.bind` matches
`l ++ m` with `l` the first field); `unfold X.parse`; then `.bind (.get h) fun _ => …`, closed by
`.bind_last … fun _ _ => rfl`, with `(v := …)` on a `.bind` whose field proof is postponed (`?_`). -/
namespace DashLive.Bits

@[simp] theorem putBits_length (n v : Nat) : (putBits n v).length = n := by
  induction n with
  | zero => rfl
  | succ n ih => simp [putBits, ih]

theorem foldl_putBits (n v acc : Nat) :
    (putBits n v).foldl (fun acc b => 2 * acc + b.toNat) acc = acc * 2 ^ n + v % 2 ^ n := by
  induction n generalizing acc with
  | zero => simp [putBits, Nat.mod_one]
  | succ n ih =>
    simp only [putBits, List.foldl_cons, ih, Nat.toNat_testBit]
    rw [Nat.mod_pow_succ, Nat.pow_succ, Nat.add_mul, Nat.mul_comm (2 ^ n) (v / 2 ^ n % 2)]
    have : 2 * acc * 2 ^ n = acc * (2 ^ n * 2) := by
      rw [Nat.mul_comm 2 acc, Nat.mul_assoc, Nat.mul_comm 2 (2 ^ n)]
    omega

theorem bitsToNat_putBits (n v : Nat) : bitsToNat (putBits n v) = v % 2 ^ n := by
  unfold bitsToNat
  rw [foldl_putBits]; omega

theorem putBits_one_bool (b : Bool) : putBits 1 b.toNat = [b] := by
  cases b <;> rfl

theorem _root_.DashLive.Scte35.putBits_1_1 : putBits 1 1 = [true] := rfl
theorem _root_.DashLive.Scte35.putBits_1_0 : putBits 1 0 = [false] := rfl

theorem putBytes_length (bs : List Nat) : (putBytes bs).length = 8 * bs.length := by
  induction bs with
  | nil => rfl
  | cons b bs ih =>
    simp only [putBytes, List.flatMap_cons, List.length_append, putBits_length, List.length_cons] at ih ⊢
    omega

theorem putBytes_cons (b : Nat) (bs : List Nat) : putBytes (b :: bs) = putBits 8 b ++ putBytes bs := rfl

theorem overwrite_placeholder (pre post : Bits) (n v0 v : Nat) :
    overwrite (pre ++ putBits n v0 ++ post) pre.length n v = pre ++ putBits n v ++ post := by
  unfold overwrite
  have h1 : List.take pre.length (pre ++ putBits n v0 ++ post) = pre := by
    rw [List.append_assoc, List.take_left]
  have h2 : List.drop (pre.length + n) (pre ++ putBits n v0 ++ post) = post :=
    List.drop_left' (by simp)
  rw [h1, h2]

/-- `(w.length - pos - c) / 8`: the byte count the back-patching encoders compute from the writer
position and then write over the placeholder (`overwrite_placeholder`) -/
theorem backpatch_bytes {pre post : Bits} {n v0 c k : Nat} (h : n + post.length = c + 8 * k) :
    ((pre ++ putBits n v0 ++ post).length - pre.length - c) / 8 = k := by
  simp only [List.length_append, putBits_length]; omega

/-- the parser `f` reads the value `v` off the bits `l`, wherever the reader
stands and whatever follows -/
def Reads {α : Type} (f : Rd → Option (α × Rd)) (l : Bits) (v : α) : Prop :=
  ∀ p rest, f ⟨p, l ++ rest⟩ = some (v, ⟨p + l.length, rest⟩)

namespace Reads
variable {α β : Type} {f : Rd → Option (α × Rd)} {k : Rd → α × Rd → Option (β × Rd)} {l m : Bits}
  {v : α} {w : β}

theorem pure (v : α) : Reads (fun r => some (v, r)) [] v := fun _ _ => rfl

theorem run (h : Reads f l v) : f ⟨0, l⟩ = some (v, ⟨l.length, []⟩) := by
  have := h 0 []
  rwa [List.append_nil, Nat.zero_add] at this

/-- **sequencing.**  The rest of a `do` block is a function of the pair `f` returns; once that
is `(v, r)`, earlier values stand in it as `(v, r).1` and so mention the reader in front of the
next field.  `k` may therefore depend on that reader (`r₀`): the lemma then applies field after
field by unification, without reducing in between. -/
theorem bind (hf : Reads f l v) (hk : ∀ r₀, Reads (fun r => k r₀ (v, r)) m w) :
    Reads (fun r => f r >>= k r) (l ++ m) w := by
  intro p rest
  simp only [List.append_assoc, hf p (m ++ rest), Option.bind_eq_bind, Option.bind_some,
    hk _ (p + l.length) rest, List.length_append, Nat.add_assoc]

theorem bind_last (hf : Reads f l v) (hk : ∀ r₀ r, k r₀ (v, r) = some (w, r)) :
    Reads (fun r => f r >>= k r) l w := by
  intro p rest
  simp only [hf p rest, Option.bind_eq_bind, Option.bind_some, hk]

theorem bind_empty (hf : ∀ r, f r = some (v, r)) (hk : ∀ r₀, Reads (fun r => k r₀ (v, r)) m w) :
    Reads (fun r => f r >>= k r) m w := by
  intro p rest
  simp only [hf, Option.bind_eq_bind, Option.bind_some, hk _ p rest]

theorem map (g : α → β) (hf : Reads f l v) : Reads (fun r => (f r).map fun x => (g x.1, x.2)) l (g v) := by
  intro p rest
  simp only [hf p rest, Option.map_some]

theorem ite_pos {c : Prop} [Decidable c] {g : Rd → Option (α × Rd)} (hc : c) (h : Reads f l v) :
    Reads (fun r => if c then f r else g r) l v := by
  simpa only [if_pos hc] using h

theorem ite_neg {c : Prop} [Decidable c] {g : Rd → Option (α × Rd)} (hc : ¬c) (h : Reads f l v) :
    Reads (fun r => if c then g r else f r) l v := by
  simpa only [if_neg hc] using h

theorem raw {n : Nat} (h : l.length = n) : Reads (fun r => r.get n) l (bitsToNat l) := by
  intro p rest
  show Rd.get ⟨p, l ++ rest⟩ n = _
  unfold Rd.get
  rw [if_neg (by simp [h]), List.take_left' h, List.drop_left' h, h]

/-- reserved bits: read back as `v % 2ⁿ`, a value the parsers ignore -/
theorem skip {n v : Nat} : Reads (fun r => r.get n) (putBits n v) (v % 2 ^ n) :=
  bitsToNat_putBits n v ▸ raw (putBits_length n v)

theorem get {n v : Nat} (h : v < 2 ^ n) : Reads (fun r => r.get n) (putBits n v) v := by
  have := skip (n := n) (v := v)
  rwa [Nat.mod_eq_of_lt h] at this

theorem bool {b : Bool} : Reads Rd.getBool [b] b := fun _ _ => rfl

theorem getBytes {bs : List Nat} (h : ∀ b ∈ bs, b < 256) :
    Reads (fun r => r.getBytes bs.length) (putBytes bs) bs := by
  induction bs with
  | nil => exact pure []
  | cons b bs ih =>
    unfold Rd.getBytes
    exact bind (get (h b List.mem_cons_self)) fun _ =>
      bind_last (ih fun x hx => h x (List.mem_cons_of_mem _ hx)) fun _ _ => rfl

end Reads

theorem get_putBits_any (n v p : Nat) (rest : Bits) :
    ∃ x, Rd.get ⟨p, putBits n v ++ rest⟩ n = some (x, ⟨p + n, rest⟩) :=
  ⟨_, putBits_length n v ▸ Reads.skip p rest⟩

theorem getBool_cons (b : Bool) (p : Nat) (rest : Bits) :
    Rd.getBool ⟨p, b :: rest⟩ = some (b, ⟨p + 1, rest⟩) := rfl

end DashLive.Bits
