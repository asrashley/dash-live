import DashLive.Model.Xml
import DashLive.Lemmas.IsoText
/-! The texts written by `'%d'`, `toIsoDuration` and `to_iso_datetime` (C19's model) are
accepted by the XSD recognisers of `Model/Xml.lean`. -/
namespace DashLive.Xml
open DashLive.IsoText

theorem allDigits_of_AllDigits {l : Text} (h : AllDigits l) (hne : l ≠ []) : allDigits l = true := by
  cases l with
  | nil => exact absurd rfl hne
  | cons a l =>
    simp only [allDigits, List.isEmpty_cons, Bool.not_false, Bool.true_and, List.all_eq_true]
    exact h

theorem allDigits_dec_eq (n : Nat) : allDigits (dec n) = true :=
  allDigits_of_AllDigits (allDigits_dec n) (dec_ne_nil n)

theorem dropField_hit (u : Char) (hu : u.isDigit = false) {ds : Text} (hd : AllDigits ds) (hne : ds ≠ [])
    (rest : Text) : dropField u (ds ++ u :: rest) = rest := by
  unfold dropField
  rw [dropWhile_run u rest hd hu, takeWhile_run u rest hd hu]
  cases ds with
  | nil => exact absurd rfl hne
  | cons => simp only [List.isEmpty_cons, Bool.not_false, Bool.and_true, decide_true, if_true]

theorem dropField_miss (u c : Char) (hc : c.isDigit = false) (hcu : c ≠ u) {ds : Text} (hd : AllDigits ds)
    (rest : Text) : dropField u (ds ++ c :: rest) = ds ++ c :: rest := by
  unfold dropField
  rw [dropWhile_run c rest hd hc]
  simp only [hcu, decide_false, Bool.false_and, Bool.false_eq_true, if_false]

/-- `t` goes on with digits and a non-digit other than `u`, so it is not taken for a `u` field -/
theorem dropField_optUnit (o : Option Nat) {u c : Char} {t ds rest : Text} (hu : u.isDigit = false)
    (ht : t = ds ++ c :: rest) (hd : AllDigits ds) (hc : c.isDigit = false) (hcu : c ≠ u) :
    dropField u (optUnit o u ++ t) = t := by
  cases o with
  | none => rw [optUnit_none, List.nil_append, ht, dropField_miss u c hc hcu hd]
  | some n =>
    rw [optUnit_some, List.append_assoc, List.singleton_append, dropField_hit u hu (allDigits_dec n) (dec_ne_nil n)]

/-- the time part `T(\d+H)?(\d+M)?` followed by a seconds field `body ++ ['S']` -/
theorem isXsDuration_time (h m : Option Nat) {body ds rest : Text} {c : Char}
    (ht : body ++ ['S'] = ds ++ c :: rest) (hd : AllDigits ds) (hc : c.isDigit = false) (hcH : c ≠ 'H') (hcM : c ≠ 'M')
    (hdec : isDecimal body = true) :
    isXsDuration ('P' :: 'T' :: (optUnit h 'H' ++ (optUnit m 'M' ++ (body ++ ['S'])))) = true := by
  have hH : dropField 'H' (optUnit h 'H' ++ (optUnit m 'M' ++ (body ++ ['S']))) = optUnit m 'M' ++ (body ++ ['S']) := by
    -- after the optional hours come digits and then `M` or `c`, neither of them `H`
    obtain ⟨ds', c', rest', hd', e, hc'⟩ := optUnit_run m 'M' c rest hd
    rw [← ht] at e
    have : c'.isDigit = false ∧ c' ≠ 'H' := by
      rcases hc' with rfl | rfl
      · exact ⟨by decide, by decide⟩
      · exact ⟨hc, hcH⟩
    exact dropField_optUnit h (by decide) e hd' this.1 this.2
  have hD (r : Text) : dropField 'D' ('T' :: r) = 'T' :: r :=
    dropField_miss 'D' 'T' (by decide) (by decide) (ds := []) (fun _ h => nomatch h) r
  unfold isXsDuration
  simp only [hD, hH, dropField_optUnit m (by decide) ht hd hc hcM]
  split
  next heq => exact absurd heq (List.append_ne_nil_of_right_ne_nil _ (List.cons_ne_nil _ _))
  next => simp only [List.getLast?_concat, List.dropLast_concat, hdec, decide_true, Bool.and_self]

theorem isDecimal_sec (s ms : Nat) (hms : ms < 1000) : isDecimal (dec s ++ fracPart ms) = true := by
  have hd := (allDigits_dec s).ne_dot
  unfold isDecimal fracPart
  by_cases h0 : ms > 0
  · obtain ⟨hne, _, hdig, _⟩ := stripZeros_pad3 h0 hms
    simp only [h0, if_true]
    rw [takeWhile_run '.' _ hd (by decide), dropWhile_run '.' _ hd (by decide)]
    simp only [allDigits_dec_eq, allDigits_of_AllDigits hdig hne, Bool.and_self]
  · simp only [h0, if_false, List.append_nil]
    rw [takeWhile_all hd, dropWhile_all hd]
    simp only [allDigits_dec_eq, Bool.and_self]

theorem isXsDuration_hms (h m : Option Nat) (s ms : Nat) (hms : ms < 1000) :
    isXsDuration (hmsText h m s ms) = true := by
  obtain ⟨c, rest, hc, hcs⟩ := fracPart_S_head ms
  have hc' : c.isDigit = false ∧ c ≠ 'H' ∧ c ≠ 'M' := by rcases hcs with rfl | rfl <;> decide
  rw [hmsText, ← List.append_assoc (dec s)]
  exact isXsDuration_time h m (by rw [List.append_assoc, hc]) (allDigits_dec s) hc'.1 hc'.2.1 hc'.2.2
    (isDecimal_sec s ms hms)

theorem isXsDuration_back (secs ms : Nat) (hms : ms ≤ 1000) :
    isXsDuration (isoDurationBack secs ms) = true := by
  obtain ⟨h, m, s, f, heq, hf, -⟩ := isoDurationBack_eq secs ms hms
  rw [heq]
  exact isXsDuration_hms h m s f hf

theorem twoDigits_pad2 {n : Nat} (h : n < 100) (r : Text) : twoDigits (pad 2 n ++ r) = some (n, r) := by
  have ha : n / 10 < 10 := Nat.div_lt_of_lt_mul h
  have hb : n % 10 < 10 := Nat.mod_lt n (by decide)
  simp only [pad2_eq h, List.cons_append, List.nil_append, twoDigits, Nat.isDigit_digitChar, ha, hb,
    Nat.toNat_digitChar_sub_48_of_lt_ten, Nat.div_add_mod', decide_true, Bool.and_self, if_true]

theorem expectChar_cons (c : Char) (r : Text) : expectChar c (c :: r) = some r := by
  simp only [expectChar, if_true]

theorem daysInMonth_le (y m : Nat) : daysInMonth y m ≤ 31 := by
  unfold daysInMonth
  split
  · split <;> omega
  · split <;> omega

/-- the offsets xs:dateTime can express: none (written `Z`) or at most ±14:00 -/
def offsetXsd (o : Option Int) : Bool :=
  match o with
  | none => true
  | some x => x.natAbs ≤ 840

theorem offsetOk_of_offsetXsd {d : DateTime} (ho : offsetXsd d.offset = true) : d.offsetOk = true := by
  revert ho
  unfold offsetXsd DateTime.offsetOk
  cases d.offset with
  | none => exact id
  | some o =>
    simp only [decide_eq_true_eq]
    omega

theorem isTzOffset_pad2 {s : Char} (hs : s = '+' ∨ s = '-') {h m : Nat} (hm : m < 60) (hr : 60 * h + m ≤ 840) :
    isTzOffset s (pad 2 h ++ ':' :: pad 2 m) = true := by
  have e := twoDigits_pad2 (n := m) (by omega) []
  rw [List.append_nil] at e
  simp only [isTzOffset, twoDigits_pad2 (n := h) (by omega), expectChar_cons, e, Bool.and_eq_true, Bool.or_eq_true,
    decide_eq_true_eq]
  exact ⟨hs, by omega⟩

theorem isTz_tzText (off : Option Int) (h : offsetXsd off = true) : isTz (tzText off) = true := by
  rcases tzText_cases off with ⟨-, e⟩ | ⟨o, rfl, -, e⟩ <;> rw [e]
  · rfl
  · have hb : o.natAbs ≤ 840 := by simpa only [offsetXsd, decide_eq_true_eq] using h
    rw [← Nat.div_add_mod o.natAbs 60] at hb
    simp only [offText, List.cons_append, isTz, Bool.or_true,
      isTzOffset_pad2 (offText_sign o) (Nat.mod_lt o.natAbs (by decide : 0 < 60)) hb]

theorem isXsDateTime_render (d : DateTime) (hv : d.valid = true) (ho : offsetXsd d.offset = true) :
    isXsDateTime (bodyText d ++ tzText d.offset) = true := by
  obtain ⟨-, hy2, hm1, hm2, hd1, hd2, hh, hmi, hs, -⟩ := (DateTime.valid_iff d).mp hv
  have hd3 := Nat.le_trans hd2 (daysInMonth_le d.year d.month)
  have hlen : (pad 4 d.year).length = 4 := length_pad (by decide) (Nat.lt_succ_of_le hy2)
  have hyd : (pad 4 d.year).all Char.isDigit = true := List.all_eq_true.mpr (allDigits_pad 4 d.year)
  -- reads the fixed-width fields and their range checks away; the match on fraction and zone is left
  simp only [isXsDateTime, bodyText, List.append_assoc, List.cons_append, List.take_left' hlen, List.drop_left' hlen,
    hlen, hyd, expectChar_cons, twoDigits_pad2 (Nat.lt_of_le_of_lt hm2 (by decide)),
    twoDigits_pad2 (Nat.lt_of_le_of_lt hd3 (by decide)), twoDigits_pad2 (Nat.lt_trans hh (by decide)),
    twoDigits_pad2 (Nat.lt_trans hmi (by decide)), twoDigits_pad2 (Nat.lt_trans hs (by decide)),
    hm1, hm2, hd1, hd3, hh, hmi, hs, decide_true, Bool.true_and]
  obtain ⟨c, rest, htz, hc⟩ := tzText_head d.offset
  simp only [isSecChar, Bool.or_eq_false_iff, beq_eq_false_iff_ne, ne_eq] at hc
  have htzok := isTz_tzText d.offset ho
  by_cases hus0 : d.micro = 0
  · simp only [hus0, ne_eq, not_true_eq_false, if_false, List.nil_append]
    rw [htz] at htzok ⊢
    split
    · rename_i heq; cases heq; exact absurd rfl hc.2
    · exact htzok
  · simp only [hus0, ne_eq, not_false_eq_true, if_true, List.cons_append]
    rw [htz, takeWhile_run c rest (allDigits_pad 6 d.micro) hc.1, dropWhile_run c rest (allDigits_pad 6 d.micro) hc.1,
      ← htz, htzok, allDigits_of_AllDigits (allDigits_pad 6 d.micro) (pad_ne_nil 6 d.micro)]
    rfl

end DashLive.Xml
