import DashLive.Model.Calendar
/-!
# Structural facts of the calendar walk

The order facts `yearStartDay d ≤ monthStartDay d ≤ d` for **every** day number (C08 uses
`monthStartDay_le` and `yearStartDay_le`), and sufficiency of the two fuel bounds: the walk always
stops on a real date (`civil_valid`).
-/
namespace DashLive.Calendar

theorem yearLen_ge (y : Nat) : 365 ≤ yearLen y := by
  unfold yearLen; split <;> omega

theorem yearLen_le (y : Nat) : yearLen y ≤ 366 := by
  unfold yearLen; split <;> omega

theorem peelYears_snd_le (fuel y d : Nat) : (peelYears fuel y d).2 ≤ d := by
  induction fuel generalizing y d with
  | zero => simp [peelYears]
  | succ f ih =>
    unfold peelYears
    split
    · exact Nat.le_refl _
    · exact Nat.le_trans (ih _ _) (Nat.sub_le _ _)

theorem peelMonths_snd_le (fuel y m d : Nat) : (peelMonths fuel y m d).2 ≤ d := by
  induction fuel generalizing m d with
  | zero => simp [peelMonths]
  | succ f ih =>
    unfold peelMonths
    split
    · exact Nat.le_refl _
    · exact Nat.le_trans (ih _ _) (Nat.sub_le _ _)

theorem dayOfYear_le (d : Nat) : dayOfYear d ≤ d := peelYears_snd_le _ _ _

theorem dayOfMonth_le_dayOfYear (d : Nat) : dayOfMonth d ≤ dayOfYear d :=
  peelMonths_snd_le _ _ _ _

theorem dayOfMonth_le (d : Nat) : dayOfMonth d ≤ d :=
  Nat.le_trans (dayOfMonth_le_dayOfYear d) (dayOfYear_le d)

theorem monthStartDay_le (d : Nat) : monthStartDay d ≤ d := Nat.sub_le _ _

theorem yearStartDay_le (d : Nat) : yearStartDay d ≤ d := Nat.sub_le _ _

theorem yearStartDay_le_monthStartDay (d : Nat) : yearStartDay d ≤ monthStartDay d :=
  Nat.sub_le_sub_left (dayOfMonth_le_dayOfYear d) d

/-- fuel sufficiency of the year walk: the remainder is a day *of that year* -/
theorem peelYears_lt (fuel y d : Nat) (h : d ≤ 365 * fuel) :
    (peelYears fuel y d).2 < yearLen (peelYears fuel y d).1 := by
  induction fuel generalizing y d with
  | zero => exact Nat.lt_of_le_of_lt h (Nat.lt_of_lt_of_le (by decide) (yearLen_ge y))
  | succ f ih =>
    unfold peelYears
    split
    · assumption
    · exact ih _ _ (Nat.sub_le_of_le_add (Nat.le_trans h (Nat.add_le_add_left (yearLen_ge y) _)))

theorem dayOfYear_lt (d : Nat) : dayOfYear d < yearLen (yearAndDoy d).1 :=
  peelYears_lt d 1970 d (Nat.le_mul_of_pos_left d (by decide))

/-- total length of the `n` months from month `m` on: with `m + n = 13`, the days from the first of
month `m` to the end of the year -/
def daysLeft (y : Nat) : Nat → Nat → Nat
  | _, 0 => 0
  | m, n + 1 => monthLen y m + daysLeft y (m + 1) n

theorem daysLeft_year (y : Nat) : daysLeft y 1 12 = yearLen y := by
  simp only [daysLeft, monthLen, yearLen]
  cases isLeap y <;> rfl

theorem peelMonths_lt (y fuel m d : Nat) (hm : m + fuel = 13) (h : d < daysLeft y m fuel) :
    m ≤ (peelMonths fuel y m d).1 ∧ (peelMonths fuel y m d).1 ≤ 12 ∧
    (peelMonths fuel y m d).2 < monthLen y (peelMonths fuel y m d).1 := by
  induction fuel generalizing m d with
  | zero => exact absurd h (Nat.not_lt_zero d)
  | succ f ih =>
    unfold peelMonths
    split
    · exact ⟨Nat.le_refl _, by omega, by assumption⟩
    · obtain ⟨h1, h2, h3⟩ := ih (m + 1) (d - monthLen y m) ((Nat.add_right_comm m 1 f).trans hm)
        (Nat.sub_lt_left_of_lt_add (Nat.le_of_not_lt ‹_›) h)
      exact ⟨Nat.le_of_succ_le h1, h2, h3⟩

/-- fuel sufficiency of the month walk: twelve steps always reach a month
1…12 whose length exceeds the remainder -/
theorem monthAndDom_lt (y doy : Nat) (h : doy < yearLen y) :
    1 ≤ (monthAndDom y doy).1 ∧ (monthAndDom y doy).1 ≤ 12 ∧
    (monthAndDom y doy).2 < monthLen y (monthAndDom y doy).1 := by
  unfold monthAndDom
  exact peelMonths_lt y 12 1 doy (by omega) (by rw [daysLeft_year]; exact h)

/-- every day number is a real civil date: month 1…12, day within the month -/
theorem civil_valid (d : Nat) :
    1 ≤ (civil d).2.1 ∧ (civil d).2.1 ≤ 12 ∧
    1 ≤ (civil d).2.2 ∧ (civil d).2.2 ≤ monthLen (civil d).1 (civil d).2.1 := by
  have h := monthAndDom_lt (yearAndDoy d).1 (yearAndDoy d).2 (dayOfYear_lt d)
  simp only [civil]
  omega

end DashLive.Calendar
