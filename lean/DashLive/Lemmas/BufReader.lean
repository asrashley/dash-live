import DashLive.Model.BufReader
/-! `BufferedReader.cache` keeps the cache coherent with the file (`CacheOk`) and bounded; the `peek`
loop returns consecutive file bytes (`peekLoop_spec`); the cache changes only through `cache`, so what
`cache` preserves, every operation preserves (`step_buffers`). -/
namespace DashLive.BufReader

/-- every cached bucket holds exactly what the file holds at that position -/
def CacheOk (c : Cfg) (bufs : List (Nat × Bytes)) : Prop :=
  ∀ e ∈ bufs, e.2 = fileRead c.file (e.1 + c.offset) c.bufsize

section
variable {c : Cfg} {bufs : List (Nat × Bytes)}

theorem lookup_of_cacheOk (h : CacheOk c bufs)
    {bucket : Nat} {d : Bytes} (hl : lookup bufs bucket = some d) :
    d = fileRead c.file (bucket + c.offset) c.bufsize := by
  obtain ⟨e, hf, rfl⟩ := Option.map_eq_some_iff.mp hl
  have hk : e.1 = bucket := by simpa using List.find?_some hf
  rw [h e (List.mem_of_find?_eq_some hf), hk]

theorem cache_ok (h : CacheOk c bufs) (bucket : Nat) :
    CacheOk c (cache c bufs bucket) := by
  unfold cache
  split
  · exact h
  · intro e he
    simp only [List.mem_append, List.mem_singleton] at he
    rcases he with he | he
    · split at he
      · exact h e (List.mem_of_mem_eraseIdx he)
      · exact h e he
    · subst he; rfl

theorem lookup_cache (h : CacheOk c bufs) (bucket : Nat) :
    lookup (cache c bufs bucket) bucket = some (fileRead c.file (bucket + c.offset) c.bufsize) := by
  have hsome : (lookup (cache c bufs bucket) bucket).isSome := by
    unfold cache
    split
    · assumption
    · simp [lookup]
  -- the bucket is present, and whatever is present is what the file holds
  obtain ⟨d, hd⟩ := Option.isSome_iff_exists.mp hsome
  rw [hd, lookup_of_cacheOk (cache_ok h bucket) hd]

/-- the code's `assert self.num_buffers <= self.max_buffers` after one call of `cache`; `hev` (the
eviction index is in range) holds of the real LRU scan, which picks an existing key -/
theorem cache_length (bucket : Nat)
    (hmax : 1 ≤ c.maxbuf) (hlen : bufs.length ≤ c.maxbuf)
    (hev : ∀ b : List (Nat × Bytes), b ≠ [] → c.evict b < b.length) :
    (cache c bufs bucket).length ≤ c.maxbuf := by
  unfold cache
  split
  · exact hlen
  · rw [List.length_append, List.length_singleton]
    split
    · next heq =>
      have heq : bufs.length = c.maxbuf := beq_iff_eq.mp heq
      have hpos : 0 < bufs.length := heq ▸ hmax
      rw [List.length_eraseIdx_of_lt (hev bufs (List.ne_nil_of_length_pos hpos)),
        Nat.sub_add_cancel hpos, heq]
      exact Nat.le_refl _
    · next hne => exact Nat.lt_of_le_of_ne hlen (fun e => hne (beq_iff_eq.mpr e))

end

theorem toNat_min (n m : Int) : (min n m).toNat = min n.toNat m.toNat := by
  rcases Int.le_total n m with h | h
  · rw [Int.min_eq_left h, Nat.min_eq_left (Int.toNat_le_toNat h)]
  · rw [Int.min_eq_right h, Nat.min_eq_right (Int.toNat_le_toNat h)]

/-- `K ≥ todo`: the loop reads whole buckets, so it returns up to the end of the last one touched -/
theorem peekLoop_spec (c : Cfg) (hbs : 0 < c.bufsize) (fuel : Nat) (bufs : List (Nat × Bytes))
    (bucket off todo : Nat) (acc : Bytes) (hok : CacheOk c bufs) (hoff : off < c.bufsize)
    (htodo : todo ≤ fuel) :
    ∃ K, todo ≤ K ∧ (peekLoop c fuel bufs bucket off todo acc).2
            = acc ++ (c.file.drop (bucket + c.offset + off)).take K := by
  induction fuel generalizing bufs bucket off todo acc with
  | zero => exact ⟨0, htodo, (List.append_nil acc).symm⟩
  | succ fuel ih =>
    unfold peekLoop
    by_cases h0 : todo = 0
    · rw [if_pos h0]
      exact ⟨0, Nat.le_of_eq h0, (List.append_nil acc).symm⟩
    · simp only [h0, if_false]
      obtain ⟨K, hK, h2⟩ := ih (cache c bufs bucket) (bucket + c.bufsize) 0
        (todo - min todo (c.bufsize - off))
        (acc ++ ((lookup (cache c bufs bucket) bucket).getD []).drop off) (cache_ok hok bucket) hbs
        (by omega)
      refine ⟨(c.bufsize - off) + K, by omega, ?_⟩
      -- the next bucket starts where the `bufsize - off` bytes taken from this one end
      have e : bucket + c.bufsize + c.offset + 0 = bucket + c.offset + off + (c.bufsize - off) := by
        rw [Nat.add_zero, Nat.add_assoc _ off, Nat.add_sub_cancel' (Nat.le_of_lt hoff),
          Nat.add_right_comm]
      rw [h2, lookup_cache hok bucket, Option.getD_some, fileRead, List.append_assoc, List.drop_take,
        List.drop_drop, e, List.take_add, List.drop_drop]

/-- `readall()` is `read(size - pos)` (`readAll`), so both forms of `read` are one call of `readN` -/
theorem step_read (c : Cfg) (s : St) (n : Int) :
    step c s (.read n) =
      ((readN c s (if n = -1 then (c.size : Int) - s.pos else n)).1,
        .bytes (readN c s (if n = -1 then (c.size : Int) - s.pos else n)).2) := by
  rw [step]; split <;> rfl

section
variable {c : Cfg} {P : List (Nat × Bytes) → Prop}
  (hP : ∀ bufs bucket, P bufs → P (cache c bufs bucket))
include hP

theorem peekLoop_buffers : ∀ fuel bufs bucket off todo acc, P bufs →
    P (peekLoop c fuel bufs bucket off todo acc).1 := by
  intro fuel
  induction fuel with
  | zero => intro bufs _ _ _ _ h; exact h
  | succ fuel ih =>
    intro bufs bucket off todo acc h
    unfold peekLoop
    split
    · exact h
    · exact ih _ _ _ _ _ (hP _ _ h)

theorem peek_buffers (s : St) (n : Nat) (h : P s.buffers) : P (peek c s n).1.buffers := by
  simp only [peek]
  split
  · exact h
  · exact peekLoop_buffers hP _ _ _ _ _ _ h

theorem readN_buffers (s : St) (n : Int) (h : P s.buffers) : P (readN c s n).1.buffers := by
  simp only [readN]
  split
  · exact h
  · exact peek_buffers hP s _ h

theorem step_buffers (s : St) (op : Op) (h : P s.buffers) : P (step c s op).1.buffers := by
  cases op with
  | tell => exact h
  | seek off w => exact h
  | peek n => exact peek_buffers hP s n h
  | read n => rw [step_read]; exact readN_buffers hP s _ h

end

end DashLive.BufReader
