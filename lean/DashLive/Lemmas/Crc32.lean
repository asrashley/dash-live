import DashLive.Model.Crc32
import DashLive.Lemmas.Bits
/-! The CRC shift register of `Model/Crc32.lean`: the residue invariant and the width of the field. -/
namespace DashLive.Crc32
open DashLive.Bits

theorem run_append (reg a b : Bits) : run reg (a ++ b) = run (run reg a) b := by
  unfold run; rw [List.foldl_append]

/-- **shift-register invariant**: when the register holds `xs` followed by `k`
zeros and the bits `xs` are fed in, every step shifts out a bit equal to the
incoming one, the feedback is never applied, and the register ends all zero. -/
theorem run_self (xs : Bits) (k : Nat) :
    run (xs ++ List.replicate k false) xs = List.replicate (xs.length + k) false := by
  induction xs generalizing k with
  | nil => simp [run]
  | cons x xs ih =>
    have hstep : step (x :: xs ++ List.replicate k false) x = xs ++ List.replicate (k + 1) false := by
      simp [step, List.replicate_succ', List.append_assoc]
    unfold run at ih ⊢
    rw [List.foldl_cons, hstep, ih (k + 1)]
    congr 1
    simp only [List.length_cons]; omega

/-- **CRC residue**: a message followed by its own CRC (the register bits,
i.e. `crc.final()` written MSB first) leaves the register all zero – for *every* message and
every initial register of any width; `poly` plays no part (`run_self`: no feedback). -/
theorem run_residue (reg msg : Bits) :
    run reg (msg ++ run reg msg) = List.replicate (run reg msg).length false := by
  rw [run_append]
  have := run_self (run reg msg) 0
  simpa using this

theorem bitsToNat_replicate_false (n : Nat) : bitsToNat (List.replicate n false) = 0 := by
  unfold bitsToNat
  induction n with
  | zero => rfl
  | succ n ih => simpa [List.replicate_succ] using ih

theorem step_length (reg : Bits) (b : Bool) (h : reg.length = 32) : (step reg b).length = 32 := by
  cases reg with
  | nil => simp at h
  | cons top rest =>
    have hr : (rest ++ [false]).length = 32 := by simp at h ⊢; omega
    simp only [step]
    split
    · simp [xorBits, hr, poly]
    · exact hr

theorem run_length (reg msg : Bits) (h : reg.length = 32) : (run reg msg).length = 32 := by
  induction msg generalizing reg with
  | nil => simpa [run] using h
  | cons b msg ih =>
    unfold run at ih ⊢
    rw [List.foldl_cons]
    exact ih _ (step_length reg b h)

end DashLive.Crc32
