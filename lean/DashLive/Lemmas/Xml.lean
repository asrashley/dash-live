import DashLive.Model.Xml
/-! `xmlSafe` as a single pass, and inertness: a text `e` is inert at a lexer state `st`
when reading it leaves the structure lexer (`keep := false`) in exactly `st`.  Element
content and quoted attribute values are lexed alike (`DataMode`); a text made of characters
other than `< & " '` and of complete references is inert in both (`Harmless`), and that is
all either escaper writes.  `Props/C05` uses this as `Harmless.skeleton_insert`: written after
a prefix that ends in either mode (`InData`), such a text leaves `skeleton` unchanged. -/
namespace DashLive.Xml

theorem replaceChar_append (c : Char) (r a b : Text) :
    replaceChar c r (a ++ b) = replaceChar c r a ++ replaceChar c r b := by
  simp only [replaceChar, List.flatMap_append]

theorem xmlSafe_append (a b : Text) : xmlSafe (a ++ b) = xmlSafe a ++ xmlSafe b := by
  simp only [xmlSafe, replaceChar_append]

theorem xmlSafe_singleton (x : Char) : xmlSafe [x] = escChar x := by
  by_cases h : x ∈ ['&', '<', '>', '"', '\'']
  · revert x
    decide +kernel
  · simp only [List.mem_cons, List.not_mem_nil, or_false, not_or] at h
    simp only [xmlSafe, replaceChar, escChar, List.flatMap_cons, List.flatMap_nil, List.append_nil, h, ↓reduceIte]

/-- the five successive `str.replace` calls never touch what an earlier one wrote -/
theorem xmlSafe_eq (s : Text) : xmlSafe s = s.flatMap escChar := by
  induction s with
  | nil => rfl
  | cons x xs ih =>
    rw [← List.singleton_append, xmlSafe_append, ih, xmlSafe_singleton, List.flatMap_append, List.flatMap_singleton]

theorem run_nil (k : Bool) (st : St) : run k st [] = some st := rfl

theorem run_cons (k : Bool) (st : St) (c : Char) (cs : Text) :
    run k st (c :: cs) = (step k st c).bind (fun st' => run k st' cs) := by
  simp only [run, List.foldlM_cons]
  rfl

theorem run_append (k : Bool) (st : St) (a b : Text) :
    run k st (a ++ b) = (run k st a).bind (fun st' => run k st' b) := by
  simp only [run, List.foldlM_append]
  rfl

def Inert (st : St) (e : Text) : Prop := run false st e = some st

theorem Inert.append {st : St} {a b : Text} (ha : Inert st a) (hb : Inert st b) : Inert st (a ++ b) := by
  unfold Inert
  rw [run_append, ha]
  exact hb

theorem Inert.skeleton_insert {pre e post : Text} {st : St} (h : Inert st e)
    (hpre : run false init pre = some st) : skeleton (pre ++ e ++ post) = skeleton (pre ++ post) := by
  unfold skeleton
  rw [List.append_assoc, run_append, run_append false init pre post, hpre]
  simp only [Option.bind_some]
  rw [run_append, h]
  rfl

/-- no delimiter in element content or in a quoted value (`>` is data in both) -/
def isPlain (c : Char) : Bool := c != '<' && c != '&' && c != '"' && c != '\''

theorem isPlain_iff {c : Char} : isPlain c = true ↔ c ≠ '<' ∧ c ≠ '&' ∧ c ≠ '"' ∧ c ≠ '\'' := by
  simp only [isPlain, Bool.and_eq_true, bne_iff_ne, ne_eq, and_assoc]

theorem isPlain_of_isDigit {c : Char} (h : c.isDigit = true) : isPlain c = true := by
  refine isPlain_iff.mpr ⟨?_, ?_, ?_, ?_⟩ <;> (rintro rfl; exact absurd h (by decide))

/-- Element content and quoted attribute values, each as a function of the pending
reference (the last argument of both constructors).  Only the three `step_…` equations
unfold `step`. -/
inductive DataMode : (Option Text → Mode) → Prop
  | content (txt : Text) : DataMode (.content txt)
  | value {q : Char} (hq : q = '"' ∨ q = '\'') (n : Text) (as : List (Text × Text)) (an v : Text) :
    DataMode (.value q n as an v)

namespace DataMode
variable {M : Option Text → Mode} (h : DataMode M) (out : List Tok)
include h

theorem step_plain {c : Char} (hc : isPlain c = true) : step false ⟨M none, out⟩ c = some ⟨M none, out⟩ := by
  obtain ⟨hl, ha, hdq, hsq⟩ := isPlain_iff.mp hc
  cases h with
  | content txt => simp only [step, ha, hl, push, ↓reduceIte, Bool.false_eq_true]
  | @value q hq n as an v =>
    have h0 : c ≠ q := by
      rcases hq with rfl | rfl
      · exact hdq
      · exact hsq
    simp only [step, h0, ha, hl, push, ↓reduceIte, Bool.false_eq_true]

theorem step_amp : step false ⟨M none, out⟩ '&' = some ⟨M (some []), out⟩ := by
  cases h with
  | content txt => rfl
  | value hq n as an v => rcases hq with rfl | rfl <;> rfl

theorem step_ref (acc : Text) (c : Char) :
    step false ⟨M (some acc), out⟩ c = (refStep acc c).map fun r => ⟨M r, out⟩ := by
  cases h <;> simp only [step] <;> rcases refStep acc c with _ | _ | _ <;> rfl

/-- the rest `r;` of a reference whose first characters are `acc` (reversed) -/
theorem run_ref : ∀ (r acc : Text), (∀ c ∈ r, isRefChar c = true) → validRef (acc.reverse ++ r) = true →
    run false ⟨M (some acc), out⟩ (r ++ [';']) = some ⟨M none, out⟩
  | [], acc, _, hv => by
    rw [List.append_nil] at hv
    simp only [List.nil_append, run_cons, h.step_ref, refStep, hv, ↓reduceIte, Option.map_some, Option.bind_some,
      run_nil]
  | c :: r, acc, hr, hv => by
    have hc := hr c List.mem_cons_self
    have hsemi : c ≠ ';' := by rintro rfl; exact absurd hc (by decide)
    rw [List.cons_append, run_cons, h.step_ref, refStep, if_neg hsemi, if_pos hc]
    exact run_ref r (c :: acc) (fun x hx => hr x (List.mem_cons_of_mem _ hx))
      (by rwa [List.reverse_cons, List.append_assoc])

end DataMode

def Harmless (e : Text) : Prop := ∀ M, DataMode M → ∀ out, Inert ⟨M none, out⟩ e

theorem Harmless.flatMap {f : Char → Text} {s : Text} (h : ∀ c ∈ s, Harmless (f c)) : Harmless (s.flatMap f) := by
  intro M hM out
  induction s with
  | nil => exact rfl
  | cons x xs ih =>
    rw [List.flatMap_cons]
    exact Inert.append (h x List.mem_cons_self M hM out) (ih fun c hc => h c (List.mem_cons_of_mem _ hc))

theorem harmless_plain {c : Char} (hc : isPlain c = true) : Harmless [c] := fun _ hM out => by
  unfold Inert
  rw [run_cons, hM.step_plain out hc]
  rfl

theorem harmless_plainText {e : Text} (h : ∀ c ∈ e, isPlain c = true) : Harmless e := by
  rw [← List.flatMap_singleton' e]
  exact Harmless.flatMap fun c hc => harmless_plain (h c hc)

def IsRef (e : Text) : Prop :=
  ∃ r, e = '&' :: (r ++ [';']) ∧ (∀ c ∈ r, isRefChar c = true) ∧ validRef r = true

theorem IsRef.harmless {e : Text} (he : IsRef e) : Harmless e := fun _ hM out => by
  obtain ⟨r, rfl, hr, hv⟩ := he
  unfold Inert
  rw [run_cons, hM.step_amp]
  exact hM.run_ref out r [] hr hv

theorem IsRef.no_delimiter {e : Text} (he : IsRef e) : ∀ c ∈ e, c ≠ '<' ∧ c ≠ '>' ∧ c ≠ '"' ∧ c ≠ '\'' := by
  obtain ⟨r, rfl, hr, -⟩ := he
  have : ∀ c, c = '&' ∨ isRefChar c = true ∨ c = ';' → c ≠ '<' ∧ c ≠ '>' ∧ c ≠ '"' ∧ c ≠ '\'' := by
    intro c hc
    refine ⟨?_, ?_, ?_, ?_⟩ <;> (rintro rfl; revert hc; decide)
  intro c hc
  simp only [List.mem_cons, List.mem_append, List.not_mem_nil, or_false] at hc
  exact this c (hc.imp_right (·.imp_left (hr c)))

theorem isRef_amp : IsRef "&amp;".toList := ⟨"amp".toList, by decide +kernel⟩
theorem isRef_lt : IsRef "&lt;".toList := ⟨"lt".toList, by decide +kernel⟩
theorem isRef_gt : IsRef "&gt;".toList := ⟨"gt".toList, by decide +kernel⟩
theorem isRef_quot : IsRef "&quot;".toList := ⟨"quot".toList, by decide +kernel⟩
theorem isRef_apos : IsRef "&apos;".toList := ⟨"apos".toList, by decide +kernel⟩
theorem isRef_34 : IsRef "&#34;".toList := ⟨"#34".toList, by decide +kernel⟩
theorem isRef_39 : IsRef "&#39;".toList := ⟨"#39".toList, by decide +kernel⟩

/-- the `if` chain is the body `escChar` and `autoChar` share, with the five replacement texts left open -/
theorem escaper_cases {P : Text → Prop} {amp lt gt quot apos : Text} (c : Char)
    (ha : P amp) (hl : P lt) (hg : P gt) (hq : P quot) (hp : P apos)
    (hc : isPlain c = true → c ≠ '>' → P [c]) :
    P (if c = '&' then amp else if c = '<' then lt else if c = '>' then gt else if c = '"' then quot
      else if c = '\'' then apos else [c]) := by
  have of_ite {p : Prop} [Decidable p] {a b : Text} (ha : P a) (hb : ¬p → P b) : P (if p then a else b) := by
    by_cases h : p
    · rwa [if_pos h]
    · rw [if_neg h]
      exact hb h
  exact of_ite ha fun h1 => of_ite hl fun h2 => of_ite hg fun h3 => of_ite hq fun h4 => of_ite hp fun h5 =>
    hc (isPlain_iff.mpr ⟨h2, h1, h4, h5⟩) h3

section
variable {P : Text → Prop} (hr : ∀ e, IsRef e → P e) (hc : ∀ c, isPlain c = true → c ≠ '>' → P [c]) (c : Char)
include hr hc

theorem escChar_cases : P (escChar c) := by
  unfold escChar
  exact escaper_cases c (hr _ isRef_amp) (hr _ isRef_lt) (hr _ isRef_gt) (hr _ isRef_quot) (hr _ isRef_apos) (hc c)

theorem autoChar_cases : P (autoChar c) := by
  unfold autoChar
  exact escaper_cases c (hr _ isRef_amp) (hr _ isRef_lt) (hr _ isRef_gt) (hr _ isRef_34) (hr _ isRef_39) (hc c)

end

theorem harmless_xmlSafe (s : Text) : Harmless (xmlSafe s) := by
  rw [xmlSafe_eq]
  exact Harmless.flatMap fun c _ => escChar_cases (fun _ => IsRef.harmless) (fun _ h _ => harmless_plain h) c

theorem harmless_autoEscape (s : Text) : Harmless (autoEscape s) :=
  Harmless.flatMap fun c _ => autoChar_cases (fun _ => IsRef.harmless) (fun _ h _ => harmless_plain h) c

def InData (pre : Text) : Prop := ∃ M, DataMode M ∧ modeAfter pre = some (M none)

theorem InText.inData {pre : Text} : InText pre → InData pre
  | ⟨txt, h⟩ => ⟨_, .content txt, h⟩

theorem InAttr.inData {q : Char} {pre : Text} (hq : q = '"' ∨ q = '\'') : InAttr q pre → InData pre
  | ⟨n, as, an, v, h⟩ => ⟨_, .value hq n as an v, h⟩

theorem inData_of_ctx {pre : Text} (h : InText pre ∨ InAttr '"' pre ∨ InAttr '\'' pre) : InData pre :=
  h.elim InText.inData (·.elim (InAttr.inData (.inl rfl)) (InAttr.inData (.inr rfl)))

theorem Harmless.skeleton_insert {pre e post : Text} (he : Harmless e) (h : InData pre) :
    skeleton (pre ++ e ++ post) = skeleton (pre ++ post) := by
  obtain ⟨M, hM, hm⟩ := h
  unfold modeAfter at hm
  cases hr : run false init pre with
  | none => rw [hr] at hm; cases hm
  | some st =>
    obtain ⟨m, out⟩ := st
    simp only [hr, Option.map_some, Option.some.injEq] at hm
    subst hm
    exact (he M hM out).skeleton_insert hr

end DashLive.Xml
