import DashLive.Model.SegmentRewrite
/-!
Helper lemmas for C03 (`Props/C03.lean`).

Every stage of `rewrite` acts on the traf children by a `modFirst` or an `insertAt`, and what
the theorems read off the children is a function of the per-child observations `t.filterMap g`
(`firstSome g` is its head, `List.map φ` the case `g = some ∘ φ`).  So what a stage leaves
alone is stated for `filterMap` (over all stages: `Stable.filterMap_rewrite`), what it sets for
`firstSome`, and where the writer puts the first child of a kind for `List.find?`.
-/
namespace DashLive.SegmentRewrite

/-- boxes `l` lie one after the other from `a` to `b` (sizes nest exactly) -/
def Chain (a : Nat) : List Placed → Nat → Prop
  | [], b => a = b
  | x :: r, b => x.pos = a ∧ Chain (a + x.size) r b

theorem chain_place (start : Nat) (l : List (String × Nat)) :
    Chain start (place start l) (tellAfter start l) := by
  induction l generalizing start with
  | nil => simp [place, tellAfter, Chain]
  | cons x r ih =>
    obtain ⟨t, s⟩ := x
    simp only [place, tellAfter, Chain]
    exact ⟨trivial, ih (start + s)⟩

theorem tellAfter_eq (start : Nat) (l : List (String × Nat)) :
    tellAfter start l = start + (l.map (·.2)).sum := by
  induction l generalizing start with
  | nil => rfl
  | cons x r ih =>
    obtain ⟨t, s⟩ := x
    simp only [tellAfter, ih, List.map_cons, List.sum_cons, Nat.add_assoc]

theorem tellAfter_append (start : Nat) (a b : List (String × Nat)) :
    tellAfter start (a ++ b) = tellAfter (tellAfter start a) b := by
  simp only [tellAfter_eq, List.map_append, List.sum_append_nat, Nat.add_assoc]

theorem tellAfter_ge (start : Nat) (l : List (String × Nat)) : start ≤ tellAfter start l :=
  tellAfter_eq start l ▸ Nat.le_add_right ..

theorem tellAfter_shift (start k : Nat) (l : List (String × Nat)) :
    tellAfter (start + k) l = tellAfter start l + k := by
  rw [tellAfter_eq, tellAfter_eq, Nat.add_right_comm]

theorem mem_place (start : Nat) (a b : List (String × Nat)) (t : String) (s : Nat) :
    (⟨t, tellAfter start a, s⟩ : Placed) ∈ place start (a ++ (t, s) :: b) := by
  induction a generalizing start with
  | nil => simp [place, tellAfter]
  | cons x r ih =>
    obtain ⟨t', s'⟩ := x
    simp only [List.cons_append, place, tellAfter]
    exact List.mem_cons_of_mem _ (ih (start + s'))

theorem mem_place_find? (q : TBox → Bool) (start : Nat) {t : List TBox} (h : t.any q = true) :
    ∃ x, t.find? q = some x ∧ q x = true ∧
      (⟨x.name, start + offsetOf q t, x.size⟩ : Placed) ∈ place start (tboxes t) := by
  induction t generalizing start with
  | nil => cases h
  | cons y r ih =>
    rw [List.find?_cons]
    cases hq : q y with
    | true => exact ⟨y, rfl, hq, by simp [offsetOf, hq, tboxes, place]⟩
    | false =>
      rw [List.any_cons, hq, Bool.false_or] at h
      obtain ⟨x, hx, hqx, hm⟩ := ih (start + y.size) h
      refine ⟨x, hx, hqx, ?_⟩
      simp only [offsetOf, hq, Bool.false_eq_true, if_false, tboxes, List.map_cons, place,
        ← Nat.add_assoc]
      exact List.mem_cons_of_mem _ hm

theorem any_insertAt (q p : TBox → Bool) (after : Bool) (b : TBox) (hb : q b = false)
    (t : List TBox) : (insertAt p after b t).any q = t.any q := by
  induction t with
  | nil => rfl
  | cons x r ih =>
    simp only [insertAt]
    by_cases hp : p x = true
    · simp only [hp, if_true]
      cases after <;> simp [List.any_cons, hb]
    · simp only [hp, Bool.false_eq_true, if_false, List.any_cons, ih]

theorem mem_insertAt (p : TBox → Bool) (after : Bool) (b : TBox) (t : List TBox) (y : TBox)
    (h : y ∈ insertAt p after b t) : y = b ∨ y ∈ t := by
  induction t with
  | nil => simp [insertAt] at h
  | cons x r ih =>
    simp only [insertAt] at h
    split at h
    · cases after
      · exact List.mem_cons.mp h  -- `b :: x :: r`
      · rcases List.mem_cons.mp h with h | h  -- `x :: b :: r`
        · exact Or.inr (h ▸ List.mem_cons_self)
        · exact (List.mem_cons.mp h).imp_right (List.mem_cons_of_mem _)
    · rcases List.mem_cons.mp h with h | h
      · exact Or.inr (h ▸ List.mem_cons_self)
      · exact (ih h).imp_right (List.mem_cons_of_mem _)

theorem offsetOf_congr (q : TBox → Bool) : ∀ t' t : List TBox,
    t'.map (fun x => (q x, x.size)) = t.map (fun x => (q x, x.size)) → offsetOf q t' = offsetOf q t
  | [], [], _ => rfl
  | [], _ :: _, h | _ :: _, [], h => by simp at h
  | x' :: r', x :: r, h => by
    simp only [List.map_cons, List.cons.injEq, Prod.mk.injEq] at h
    simp only [offsetOf, h.1.1, h.1.2, offsetOf_congr q r' r h.2]

theorem map_modFirst_comm (e : TBox → TBox) (f : TBox → Option TBox)
    (h : ∀ x, f (e x) = (f x).map e) (t : List TBox) :
    (modFirst f t).map e = modFirst f (t.map e) := by
  induction t with
  | nil => rfl
  | cons x r ih =>
    simp only [modFirst, List.map_cons]
    rw [h x]
    cases hf : f x with
    | none => simp only [Option.map_none, List.map_cons, ih]
    | some y => simp only [Option.map_some, List.map_cons]

theorem isSome_of_map_ne {α : Type} {k : α → α} {x : Option α} (h : x.map k ≠ x) :
    x.isSome = true := by
  cases x with
  | none => exact absurd rfl h
  | some _ => rfl

theorem mem_ite_singleton {α : Type} {c : Prop} [Decidable c] {x p : α}
    (h : p ∈ (if c then [x] else [])) : c ∧ p = x := by
  by_cases hc : c
  · rw [if_pos hc] at h
    exact ⟨hc, List.mem_singleton.mp h⟩
  · rw [if_neg hc] at h
    cases h

def upd1 (k : Nat → Nat) : List Nat → List Nat
  | [x] => [k x]
  | l => l

/-- the common form of both saio passes (`fSetSaio1_eq`, `fPostSaio_eq`): a single offset gets a
new value, any other offset list is written as it is -/
def saioUpd (k : Nat → Nat) : TBox → Option TBox
  | .saio v a l => some (.saio v a (upd1 k l))
  | _ => none

/-- the children after the inserting stages of `trafEdited` (tfdt, PIFF clones) -/
def trafMid (o : Opts) (t : List TBox) : List TBox :=
  if o.encrypted then insertPiffs o.piffs (trafTimed o t) else trafTimed o t

/-- an observable that none of the rewrite's edits can change: blind to tfdt and PIFF boxes (the
kinds inserted), to the trun's `dop` / `dataOffset` and to the saio's `offsets` (the fields set) -/
structure Stable {α : Type} (g : TBox → Option α) : Prop where
  tfdt : ∀ v t, g (.tfdt v t) = none
  piff : ∀ o e, g (.piff o e) = none
  trun : ∀ d1 d2 f p s x1 x2, g (.trun d1 f p s x1) = g (.trun d2 f p s x2)
  saio : ∀ v a o1 o2, g (.saio v a o1) = g (.saio v a o2)

def gPiff : TBox → Option (Bool × List Nat)
  | .piff o e => some (o, e)
  | _ => none

/-- every PIFF box of `t` is a clone of the (first) senc described by `se` -/
def PiffsFrom (se : Option (Bool × List Nat)) (t : List TBox) : Prop :=
  ∀ c ∈ t.filterMap gPiff, se = some c

/-- `t1`, `t2`, `t3` of `rewrite` with their parameters free, inside out: the pass 1 saio value
(`c`: the offsets were reset), `saio.post_encode`, `trun.post_encode` -/
def late (c : Prop) [Decidable c] (p w b m : Nat) (hs bug : Bool) (t : List TBox) : List TBox :=
  modFirst (fPostTrun b m) (modFirst (fPostSaio w hs bug) (if c then modFirst (fSetSaio1 p) t else t))

def eraseSaio : TBox → TBox
  | .saio v a _ => .saio v a []
  | x => x

theorem fSetSaio1_eq (p : Nat) : fSetSaio1 p = saioUpd fun _ => p := by
  funext x
  rcases x with _ | _ | _ | ⟨_, _, _ | ⟨_, _ | _⟩⟩ | _ | _ | _ <;> rfl

theorem fPostSaio_eq (w : Nat) (hs bug : Bool) :
    fPostSaio w hs bug = saioUpd fun x => if hs && decide (x ≠ w) && !bug then w else x := by
  funext x
  rcases x with _ | _ | _ | ⟨_, _, _ | ⟨_, _ | _⟩⟩ | _ | _ | _ <;> rfl

section Keeps
variable {α : Type} {g : TBox → α}

theorem saioUpd_keeps (hg : ∀ v a x y, g (.saio v a [x]) = g (.saio v a [y])) (k : Nat → Nat)
    (x y : TBox) (h : saioUpd k x = some y) : g y = g x := by
  rcases x with _ | _ | _ | ⟨_, _, _ | ⟨_, _ | _⟩⟩ | _ | _ | _ <;> cases h
  · rfl
  · exact hg ..
  · rfl

theorem fPostTrun_keeps (hg : ∀ d f p s x y, g (.trun d f p s x) = g (.trun d f p s y))
    (b m : Nat) (x y : TBox) (h : fPostTrun b m x = some y) : g y = g x := by
  cases x <;> cases h
  exact hg ..

theorem map_eq_of_filterMap {t' t : List TBox}
    (h : t'.filterMap (fun x => some (g x)) = t.filterMap (fun x => some (g x))) :
    t'.map g = t.map g := by
  rwa [List.filterMap_eq_map'] at h

end Keeps

section Frame
variable {α : Type} {g : TBox → Option α}

theorem filterMap_modFirst {f : TBox → Option TBox} (h : ∀ x y, f x = some y → g y = g x)
    (t : List TBox) : (modFirst f t).filterMap g = t.filterMap g := by
  induction t with
  | nil => rfl
  | cons x r ih =>
    simp only [modFirst]
    cases hf : f x with
    | none => simp only [List.filterMap_cons, ih]
    | some y => simp only [List.filterMap_cons, h x y hf]

theorem filterMap_insertAt {p : TBox → Bool} {after : Bool} {b : TBox} (hb : g b = none)
    (t : List TBox) : (insertAt p after b t).filterMap g = t.filterMap g := by
  induction t with
  | nil => rfl
  | cons x r ih =>
    simp only [insertAt]
    split
    · cases after <;> cases hx : g x <;> simp [hb, hx]
    · simp only [List.filterMap_cons, ih]

theorem firstSome_eq_head? (t : List TBox) : firstSome g t = (t.filterMap g).head? := by
  induction t with
  | nil => rfl
  | cons x r ih => cases hx : g x <;> simp [firstSome, hx, ih]

theorem firstSome_congr {t' t : List TBox} (h : t'.filterMap g = t.filterMap g) :
    firstSome g t' = firstSome g t := by
  rw [firstSome_eq_head?, firstSome_eq_head?, h]

theorem any_eq_isSome {q : TBox → Bool} (h : ∀ x, (g x).isSome = q x) (t : List TBox) :
    t.any q = (firstSome g t).isSome := by
  induction t with
  | nil => rfl
  | cons x r ih =>
    simp only [List.any_cons, firstSome, ← h x, ih]
    cases g x <;> rfl

theorem any_congr {q : TBox → Bool} (hq : ∀ x, (g x).isSome = q x) {t' t : List TBox}
    (h : t'.filterMap g = t.filterMap g) : t'.any q = t.any q := by
  rw [any_eq_isSome hq, any_eq_isSome hq, firstSome_congr h]

theorem firstSome_of_any {q : TBox → Bool} (hq : ∀ x, (g x).isSome = q x) {t : List TBox}
    (h : t.any q = true) : ∃ a, firstSome g t = some a :=
  Option.isSome_iff_exists.mp ((any_eq_isSome hq t).symm.trans h)

theorem firstSome_eq_find? {q : TBox → Bool} (h : ∀ x, (g x).isSome = q x) (t : List TBox) :
    firstSome g t = (t.find? q).bind g := by
  induction t with
  | nil => rfl
  | cons x r ih =>
    have := h x
    rw [List.find?_cons]
    cases hq : q x <;> cases hg : g x <;> simp_all [firstSome]

theorem firstSome_modFirst_map {f : TBox → Option TBox} (k : α → α)
    (h : ∀ x, match f x with
      | none => g x = none
      | some y => ∃ a, g x = some a ∧ g y = some (k a)) (t : List TBox) :
    firstSome g (modFirst f t) = (firstSome g t).map k := by
  induction t with
  | nil => rfl
  | cons x r ih =>
    have hx := h x
    simp only [modFirst]
    cases hf : f x with
    | none =>
      rw [hf] at hx
      simp only [firstSome, hx, ih]
    | some y =>
      rw [hf] at hx
      obtain ⟨a, hx, hy⟩ := hx
      simp only [firstSome, hx, hy, Option.map_some]

end Frame

theorem saioOffsets_saioUpd (k : Nat → Nat) (t : List TBox) :
    saioOffsets (modFirst (saioUpd k) t) = (saioOffsets t).map (upd1 k) :=
  firstSome_modFirst_map _ (fun x => by cases x <;> first | rfl | exact ⟨_, rfl, rfl⟩) t

theorem saioOffsets_resetSaio (t : List TBox) :
    saioOffsets (resetSaio t) = (saioOffsets t).map fun _ => [0] :=
  firstSome_modFirst_map _ (fun x => by cases x <;> first | rfl | exact ⟨_, rfl, rfl⟩) t

theorem trunDop_forceDop (t : List TBox) :
    firstSome gTrunDop (forceDop t) = (firstSome gTrunDop t).map fun _ => true :=
  firstSome_modFirst_map _ (fun x => by cases x <;> first | rfl | exact ⟨_, rfl, rfl⟩) t

theorem trunOffset_postTrun (b m : Nat) (t : List TBox) :
    firstSome gTrunOffset (modFirst (fPostTrun b m) t) =
      (firstSome gTrunOffset t).map fun d => if (b : Int) + d ≠ (m : Int) then (m : Int) - (b : Int) else d :=
  firstSome_modFirst_map _ (fun x => by cases x <;> first | rfl | exact ⟨_, rfl, rfl⟩) t

theorem sencEntries_firstSenc (t : List TBox) : sencEntries t = (firstSenc t).map (·.2) := by
  unfold sencEntries firstSenc
  induction t with
  | nil => rfl
  | cons x r ih => cases x <;> simp [firstSome, gSencEntries, gSenc, ih]

section Edit
variable {α : Type} {g : TBox → Option α}

theorem filterMap_trafTimed (h : ∀ v n, g (.tfdt v n) = none) (o : Opts) (t : List TBox) :
    (trafTimed o t).filterMap g = t.filterMap g := by
  unfold trafTimed setTfdt
  rw [filterMap_modFirst fun x y e => by cases x <;> cases e; rw [h, h]]
  split
  · rfl
  · exact filterMap_insertAt (h 0 0) t

theorem filterMap_insertPiffs (h : ∀ o e, g (.piff o e) = none) (n : Nat) (t : List TBox) :
    (insertPiffs n t).filterMap g = t.filterMap g := by
  induction n generalizing t with
  | zero => rfl
  | succ n ih =>
    rw [insertPiffs, ih, insertPiff]
    split
    · rfl
    · exact filterMap_insertAt (h _ _) t

theorem trafEdited_eq (o : Opts) (t : List TBox) : trafEdited o t =
    if saioReset o t then resetSaio (forceDop (trafMid o t)) else forceDop (trafMid o t) := rfl

theorem filterMap_trafMid (h1 : ∀ v n, g (.tfdt v n) = none) (h2 : ∀ o e, g (.piff o e) = none)
    (o : Opts) (t : List TBox) : (trafMid o t).filterMap g = t.filterMap g := by
  unfold trafMid
  split
  · rw [filterMap_insertPiffs h2, filterMap_trafTimed h1]
  · exact filterMap_trafTimed h1 o t

theorem filterMap_forceDop (h : ∀ d f p s x, g (.trun true f p s x) = g (.trun d f p s x))
    (t : List TBox) : (forceDop t).filterMap g = t.filterMap g :=
  filterMap_modFirst (fun x y e => by cases x <;> cases e; exact h ..) t

theorem filterMap_trafEdited_reset (h : ∀ v a l, g (.saio v a [0]) = g (.saio v a l)) (o : Opts)
    (t : List TBox) : (trafEdited o t).filterMap g = (forceDop (trafMid o t)).filterMap g := by
  rw [trafEdited_eq, apply_ite (List.filterMap g), resetSaio,
    filterMap_modFirst fun x y e => by cases x <;> cases e; exact h .., ite_self]

theorem filterMap_trafEdited_mid (htrun : ∀ d f p s x, g (.trun true f p s x) = g (.trun d f p s x))
    (hsaio : ∀ v a l, g (.saio v a [0]) = g (.saio v a l)) (o : Opts) (t : List TBox) :
    (trafEdited o t).filterMap g = (trafMid o t).filterMap g := by
  rw [filterMap_trafEdited_reset hsaio, filterMap_forceDop htrun]

theorem Stable.filterMap_trafEdited (hg : Stable g) (o : Opts) (t : List TBox) :
    (trafEdited o t).filterMap g = t.filterMap g :=
  (filterMap_trafEdited_mid (fun _ _ _ _ _ => hg.trun ..) (fun _ _ _ => hg.saio ..) o t).trans
    (filterMap_trafMid hg.tfdt hg.piff o t)

end Edit

theorem stable_trunSizes : Stable gTrunSizes := by
  constructor <;> intros <;> rfl
theorem stable_sencEntries : Stable gSencEntries := by
  constructor <;> intros <;> rfl
theorem stable_gSenc : Stable gSenc := by
  constructor <;> intros <;> rfl

theorem any_isTrun_trafEdited (o : Opts) (t : List TBox) :
    (trafEdited o t).any isTrun = t.any isTrun :=
  any_congr (fun x => by cases x <;> rfl) (stable_trunSizes.filterMap_trafEdited o t)

theorem hasSenc_trafEdited (o : Opts) (t : List TBox) : hasSenc (trafEdited o t) = hasSenc t :=
  any_congr (fun x => by cases x <;> rfl) (stable_sencEntries.filterMap_trafEdited o t)

theorem isSome_gTrunDop (x : TBox) : (gTrunDop x).isSome = isTrun x := by
  cases x <;> rfl

theorem trunDop_trafEdited (o : Opts) (t : List TBox) (h : t.any isTrun = true) :
    trunDop (trafEdited o t) = true := by
  obtain ⟨d, hd⟩ := firstSome_of_any isSome_gTrunDop h
  rw [trunDop, firstSome_congr (filterMap_trafEdited_reset (fun _ _ _ => rfl) o t), trunDop_forceDop,
    firstSome_congr (filterMap_trafMid (fun _ _ => rfl) (fun _ _ => rfl) o t), hd]
  rfl

theorem saioOffsets_trafEdited (o : Opts) (t : List TBox) (x0 : Nat) (h : saioOffsets t = some [x0]) :
    ∃ x, saioOffsets (trafEdited o t) = some [x] := by
  have hdop : saioOffsets (forceDop (trafMid o t)) = some [x0] := by
    rw [saioOffsets, firstSome_congr (filterMap_forceDop (fun _ _ _ _ _ => rfl) _),
      firstSome_congr (filterMap_trafMid (fun _ _ => rfl) (fun _ _ => rfl) o t)]
    exact h
  rw [trafEdited_eq]
  split
  · exact ⟨0, by rw [saioOffsets_resetSaio, hdop]; rfl⟩
  · exact ⟨x0, hdop⟩

theorem piffs_insertPiffs (se : Option (Bool × List Nat)) (n : Nat) (t : List TBox)
    (hs : firstSenc t = se) (h : PiffsFrom se t) : PiffsFrom se (insertPiffs n t) := by
  induction n generalizing t with
  | zero => exact h
  | succ n ih =>
    rw [insertPiffs]
    -- `gSenc` does not see a PIFF box, so the next clone is taken from the same senc
    have hs' : firstSenc (insertPiff t) = se :=
      (firstSome_congr (filterMap_insertPiffs stable_gSenc.piff 1 t)).trans hs
    refine ih _ hs' ?_
    unfold insertPiff
    split
    · exact h
    · rename_i o e heq
      intro c hc
      obtain ⟨x, hx, hg⟩ := List.mem_filterMap.mp hc
      rcases mem_insertAt _ _ _ _ _ hx with rfl | hx
      · cases hg
        rw [← hs, heq]
      · exact h c (List.mem_filterMap.mpr ⟨x, hx, hg⟩)

section Late
variable {α : Type} {g : TBox → Option α}
variable {c : Prop} [Decidable c] {p w b m : Nat} {hs bug : Bool} {t : List TBox}

theorem filterMap_lateSaio (hsaio : ∀ v a x y, g (.saio v a [x]) = g (.saio v a [y])) :
    (modFirst (fPostSaio w hs bug) (if c then modFirst (fSetSaio1 p) t else t)).filterMap g =
      t.filterMap g := by
  rw [fPostSaio_eq, fSetSaio1_eq, filterMap_modFirst (saioUpd_keeps hsaio _)]
  split
  · exact filterMap_modFirst (saioUpd_keeps hsaio _) t
  · rfl

theorem filterMap_late (hsaio : ∀ v a x y, g (.saio v a [x]) = g (.saio v a [y]))
    (htrun : ∀ d f p s x y, g (.trun d f p s x) = g (.trun d f p s y)) :
    (late c p w b m hs bug t).filterMap g = t.filterMap g := by
  rw [late, filterMap_modFirst (fPostTrun_keeps htrun b m), filterMap_lateSaio hsaio]

theorem saioOffsets_postSaio (u : List TBox) :
    saioOffsets (modFirst (fPostSaio w hs bug) u) =
      (saioOffsets u).map (upd1 fun x => if hs && decide (x ≠ w) && !bug then w else x) := by
  rw [fPostSaio_eq, saioOffsets_saioUpd]

theorem saioOffsets_setSaio1 :
    saioOffsets (if c then modFirst (fSetSaio1 p) t else t) =
      if c then (saioOffsets t).map (upd1 fun _ => p) else saioOffsets t := by
  rw [apply_ite saioOffsets, fSetSaio1_eq, saioOffsets_saioUpd]

/-- rewriting a value that is already right is no change -/
theorem ite_ne_eq (hs bug : Bool) (x w : Nat) :
    (if hs && decide (x ≠ w) && !bug then w else x) = if hs && !bug then w else x := by
  by_cases he : x = w
  · rw [he, ite_self, ite_self]
  · simp [he]

theorem saioOffsets_late {x : Nat} (h : saioOffsets t = some [x]) :
    saioOffsets (late c p w b m hs bug t) = some [if hs && !bug then w else if c then p else x] := by
  rw [saioOffsets, late,
    firstSome_congr (filterMap_modFirst (fPostTrun_keeps (fun _ _ _ _ _ _ => rfl) b m) _)]
  show saioOffsets _ = _
  rw [saioOffsets_postSaio, saioOffsets_setSaio1, h, ← ite_ne_eq]
  split <;> rfl

theorem trunOffset_late (h : t.any isTrun = true) :
    (b : Int) + trunOffset (late c p w b m hs bug t) = (m : Int) := by
  obtain ⟨d, hd⟩ := firstSome_of_any (g := gTrunOffset) (fun x => by cases x <;> rfl) h
  rw [trunOffset, late, trunOffset_postTrun,
    firstSome_congr (filterMap_lateSaio fun _ _ _ _ => rfl), hd]
  simp only [Option.map_some, Option.getD_some]
  by_cases hbd : (b : Int) + d = m
  · rw [if_neg (not_not_intro hbd)]
    exact hbd
  · rw [if_pos hbd, Int.add_comm, Int.sub_add_cancel]

theorem late_erase :
    (late c p w b m hs bug t).map eraseSaio = modFirst (fPostTrun b m) (t.map eraseSaio) := by
  rw [late, map_modFirst_comm eraseSaio _ fun x => by cases x <;> rfl,
    map_eq_of_filterMap (filterMap_lateSaio fun _ _ _ _ => rfl)]

end Late

theorem rewrite_traf (o : Opts) (s : Seg) : ∃ (c : Prop) (_ : Decidable c) (p w m : Nat),
    (rewrite o s).traf = late c p w (rewrite o s).base m (hasSenc (trafEdited o s.traf)) o.bugSaio (trafEdited o s.traf) :=
  ⟨_, inferInstance, _, _, _, rfl⟩

theorem shape_trun (s : Seg) (h : shapeOk s = true) : s.traf.any isTrun = true := by
  simp only [shapeOk, Bool.and_eq_true, beq_iff_eq, count] at h
  obtain ⟨x, hx⟩ := List.exists_mem_of_length_pos (l := s.traf.filter isTrun) (by omega)
  exact List.any_eq_true.mpr ⟨x, List.mem_filter.mp hx⟩

theorem shape_nopiff (s : Seg) (h : shapeOk s = true) : PiffsFrom (firstSenc s.traf) s.traf := by
  intro c hc
  obtain ⟨x, hx, hg⟩ := List.mem_filterMap.mp hc
  have hm : x ∈ s.traf.filter isPiff := List.mem_filter.mpr ⟨hx, by cases x <;> simp [gPiff] at hg; rfl⟩
  simp only [shapeOk, Bool.and_eq_true, beq_iff_eq, count] at h
  exact absurd (List.length_pos_of_mem hm) (h.1.2 ▸ Nat.lt_irrefl 0)

/-! ### names for the `let`s of `rewrite` (`rewrite_base` … `rewrite_trafSize` hold by `rfl`) -/

def ePre (o : Opts) (s : Seg) : List (String × Nat) :=
  opqs (eraseSidx s.pre ++ o.newEmsg.map (fun n => (⟨"emsg", n⟩ : Opq)))
def eMoofPos (o : Opts) (s : Seg) : Nat := tellAfter 0 (ePre o s)
def eTrafPos (o : Opts) (s : Seg) : Nat := tellAfter (eMoofPos o s + 8) (opqs s.moofPre)
def eT (o : Opts) (s : Seg) : List TBox := trafEdited o s.traf
def eTrafEnd (o : Opts) (s : Seg) : Nat := tellAfter (eTrafPos o s + 8) (tboxes (eT o s))
def eMoofEnd (o : Opts) (s : Seg) : Nat := tellAfter (eTrafEnd o s) (opqs s.moofPost)
def eWant (o : Opts) (s : Seg) : Nat :=
  eTrafPos o s + 8 + offsetOf isSenc (eT o s) + sencRel (eT o s) - eMoofPos o s

theorem rewrite_base (o : Opts) (s : Seg) : (rewrite o s).base = eMoofPos o s := rfl
theorem rewrite_moofPos (o : Opts) (s : Seg) : (rewrite o s).moofPos = eMoofPos o s := rfl
theorem rewrite_trafPos (o : Opts) (s : Seg) : (rewrite o s).trafPos = eTrafPos o s := rfl
theorem rewrite_payloadStart (o : Opts) (s : Seg) :
    (rewrite o s).payloadStart = eMoofEnd o s + s.mdatHdr := rfl
theorem rewrite_mdatPos (o : Opts) (s : Seg) : (rewrite o s).mdatPos = eMoofEnd o s := rfl
theorem rewrite_mdatSize (o : Opts) (s : Seg) :
    (rewrite o s).mdatSize = s.mdatHdr + s.payload.length := rfl
theorem rewrite_moofSize (o : Opts) (s : Seg) :
    (rewrite o s).moofSize = eMoofEnd o s - eMoofPos o s := rfl
theorem rewrite_top (o : Opts) (s : Seg) : ∃ post, (rewrite o s).top =
    place 0 (ePre o s ++ [("moof", eMoofEnd o s - eMoofPos o s), ("mdat", s.mdatHdr + s.payload.length)] ++
      post) := ⟨_, rfl⟩
theorem rewrite_moofKids (o : Opts) (s : Seg) : (rewrite o s).moofKids =
    place (eMoofPos o s + 8)
      (opqs s.moofPre ++ [("traf", eTrafEnd o s - eTrafPos o s)] ++ opqs s.moofPost) := rfl
theorem rewrite_trafSize (o : Opts) (s : Seg) :
    (rewrite o s).trafSize = eTrafEnd o s - eTrafPos o s := rfl

theorem e_order (o : Opts) (s : Seg) :
    eMoofPos o s ≤ eTrafPos o s ∧ eTrafPos o s ≤ eTrafEnd o s ∧ eTrafEnd o s ≤ eMoofEnd o s :=
  ⟨Nat.le_trans (Nat.le_add_right _ 8) (tellAfter_ge ..),
    Nat.le_trans (Nat.le_add_right _ 8) (tellAfter_ge ..), tellAfter_ge ..⟩

theorem e_span (o : Opts) (s : Seg) :
    eMoofPos o s + (eMoofEnd o s - eMoofPos o s) = eMoofEnd o s ∧
    eTrafPos o s + (eTrafEnd o s - eTrafPos o s) = eTrafEnd o s :=
  have ⟨h1, h2, h3⟩ := e_order o s
  ⟨Nat.add_sub_cancel' (Nat.le_trans h1 (Nat.le_trans h2 h3)), Nat.add_sub_cancel' h2⟩

theorem eWant_spec (o : Opts) (s : Seg) : eMoofPos o s + eWant o s =
    eTrafPos o s + 8 + offsetOf isSenc (eT o s) + sencRel (eT o s) :=
  Nat.add_sub_cancel' (Nat.le_trans (e_order o s).1
    (by rw [Nat.add_assoc, Nat.add_assoc]; exact Nat.le_add_right ..))

theorem rewrite_traf_eq (o : Opts) (s : Seg) : ∃ p,
    (rewrite o s).traf = late (saioReset o s.traf = true) p (eWant o s) (eMoofPos o s)
      (eMoofEnd o s + s.mdatHdr) (hasSenc (eT o s)) o.bugSaio (eT o s) := by
  -- the model aims `trun.post_encode` at `moofPos + moofSize + mdatHdr`
  rw [← (e_span o s).1]
  exact ⟨_, rfl⟩

theorem filterMap_rewrite_edited {α : Type} {g : TBox → Option α}
    (hsaio : ∀ v a x y, g (.saio v a [x]) = g (.saio v a [y]))
    (htrun : ∀ d f p s x y, g (.trun d f p s x) = g (.trun d f p s y)) (o : Opts) (s : Seg) :
    (rewrite o s).traf.filterMap g = (trafEdited o s.traf).filterMap g := by
  obtain ⟨p, hp⟩ := rewrite_traf_eq o s
  rw [hp, filterMap_late hsaio htrun, eT]

theorem rewrite_trafKids (o : Opts) (s : Seg) :
    (rewrite o s).trafKids = place (eTrafPos o s + 8) (tboxes (eT o s)) := by
  have h : (rewrite o s).trafKids = place (eTrafPos o s + 8) (tboxes (rewrite o s).traf) := rfl
  rw [h, tboxes, tboxes,
    map_eq_of_filterMap (filterMap_rewrite_edited (fun _ _ _ _ => rfl) (fun _ _ _ _ _ _ => rfl) o s)]
  rfl

theorem sencRel_rewrite (o : Opts) (s : Seg) : sencRel (rewrite o s).traf = sencRel (eT o s) :=
  congrArg (·.getD 0)
    (firstSome_congr (filterMap_rewrite_edited (fun _ _ _ _ => rfl) (fun _ _ _ _ _ _ => rfl) o s))

theorem offsetOf_isSenc_rewrite (o : Opts) (s : Seg) :
    offsetOf isSenc (rewrite o s).traf = offsetOf isSenc (eT o s) :=
  offsetOf_congr _ _ _ (map_eq_of_filterMap
    (filterMap_rewrite_edited (fun _ _ _ _ => rfl) (fun _ _ _ _ _ _ => rfl) o s))

theorem Stable.filterMap_rewrite {α : Type} {g : TBox → Option α} (hg : Stable g) (o : Opts)
    (s : Seg) : (rewrite o s).traf.filterMap g = s.traf.filterMap g :=
  (filterMap_rewrite_edited (fun _ _ _ _ => hg.saio ..) (fun _ _ _ _ _ _ => hg.trun ..) o s).trans
    (hg.filterMap_trafEdited o s.traf)

theorem piffs_rewrite (o : Opts) (s : Seg) (h : PiffsFrom (firstSenc s.traf) s.traf) :
    PiffsFrom (firstSenc s.traf) (rewrite o s).traf := by
  have hT : PiffsFrom (firstSenc s.traf) (trafTimed o s.traf) := by
    rw [PiffsFrom, filterMap_trafTimed fun _ _ => rfl]
    exact h
  rw [PiffsFrom, filterMap_rewrite_edited (fun _ _ _ _ => rfl) (fun _ _ _ _ _ _ => rfl),
    filterMap_trafEdited_mid (fun _ _ _ _ _ => rfl) (fun _ _ _ => rfl), trafMid]
  split
  · exact piffs_insertPiffs _ _ _
      (firstSome_congr (filterMap_trafTimed stable_gSenc.tfdt o s.traf)) hT
  · exact hT

theorem rewrite_trunDop (o : Opts) (s : Seg) (h : s.traf.any isTrun = true) :
    trunDop (rewrite o s).traf = true := by
  rw [trunDop, firstSome_congr (filterMap_rewrite_edited (fun _ _ _ _ => rfl) (fun _ _ _ _ _ _ => rfl) o s)]
  exact trunDop_trafEdited o s.traf h

theorem rewrite_trunOffset (o : Opts) (s : Seg) (h : s.traf.any isTrun = true) :
    ((rewrite o s).base : Int) + trunOffset (rewrite o s).traf = ((rewrite o s).payloadStart : Int) := by
  obtain ⟨p, hp⟩ := rewrite_traf_eq o s
  rw [hp, rewrite_base, rewrite_payloadStart]
  exact trunOffset_late ((any_isTrun_trafEdited o s.traf).trans h)

theorem rewrite_saioOffsets (o : Opts) (s : Seg) (x0 : Nat) (h : saioOffsets s.traf = some [x0]) :
    ∃ x, saioOffsets (rewrite o s).traf =
      some [if hasSenc s.traf && !o.bugSaio then eWant o s else x] := by
  obtain ⟨p, hp⟩ := rewrite_traf_eq o s
  obtain ⟨x, hx⟩ : ∃ x, saioOffsets (eT o s) = some [x] := saioOffsets_trafEdited o s.traf x0 h
  rw [hp, saioOffsets_late hx, eT, hasSenc_trafEdited]
  exact ⟨_, rfl⟩

theorem rewrite_bug_indep (o : Opts) (s : Seg) (b b' : Bool) :
    let r := rewrite { o with bugSaio := b } s
    let r' := rewrite { o with bugSaio := b' } s
    r.top = r'.top ∧ r.moofPos = r'.moofPos ∧ r.moofSize = r'.moofSize ∧
    r.moofKids = r'.moofKids ∧ r.trafPos = r'.trafPos ∧ r.trafSize = r'.trafSize ∧
    r.trafKids = r'.trafKids ∧ r.base = r'.base ∧ r.mdatPos = r'.mdatPos ∧
    r.mdatSize = r'.mdatSize ∧ r.payloadStart = r'.payloadStart ∧ r.payload = r'.payload ∧
    r.total = r'.total ∧ r.traf.map eraseSaio = r'.traf.map eraseSaio := by
  obtain ⟨p, hp⟩ := rewrite_traf_eq { o with bugSaio := b } s
  obtain ⟨p', hp'⟩ := rewrite_traf_eq { o with bugSaio := b' } s
  -- zeta first: on the `let`-bound `r`, `r'` every `rfl` unfolds `rewrite` anew
  dsimp only
  refine ⟨rfl, rfl, rfl, rfl, rfl, rfl, ?_, rfl, rfl, rfl, rfl, rfl, rfl, ?_⟩
  · rw [rewrite_trafKids, rewrite_trafKids]
    rfl
  · rw [hp, hp', late_erase, late_erase]
    rfl

/-- the patch conditions stay abstract, except that a saio patch needs a saio -/
theorem rewrite_patches_eq (o : Opts) (s : Seg) :
    ∃ (c1 c2 : Prop) (_ : Decidable c1) (_ : Decidable c2),
      (rewrite o s).patches =
        (if c1 then [(eTrafPos o s + 8 + offsetOf isTrun (eT o s) + 12, 8 + b2n (trunFsf (eT o s)) 4)]
          else []) ++
        (if c2 then [(eTrafPos o s + 8 + offsetOf isSaio (eT o s), (firstSome gSaioSize (eT o s)).getD 0)]
          else []) ∧
      (c2 → (eT o s).any isSaio = true) := by
  refine ⟨_, _, _, _, rfl, fun hne => ?_⟩
  -- `hne`: `post_encode` changed the saio offset, so there was one to change
  rw [saioOffsets_postSaio] at hne
  have := isSome_of_map_ne hne
  rw [saioOffsets_setSaio1, apply_ite Option.isSome, Option.isSome_map, ite_self] at this
  exact (any_eq_isSome (g := gSaioOffsets) (fun x => by cases x <;> rfl) _).trans this

/-- a stored encrypted segment indexed from its styp: sidx in front of the moof, no
tfdt, explicit base, trun without data_offset field, a saio offset pointing nowhere -/
def exSeg : Seg :=
  { pre := [⟨"styp", 24⟩, ⟨"sidx", 44⟩], moofPre := [⟨"mfhd", 16⟩],
    traf := [.tfhd true 1, .other "saiz" 17, .saio 0 false [999], .senc false [16, 16, 16],
             .trun false true 2 [10, 20, 30] 7],
    moofPost := [], mdatHdr := 8, payload := List.replicate 60 0, post := [⟨"styp", 24⟩] }

/-- a request in the far future (64-bit tfdt), one emsg box, one PIFF clone -/
def exOpts (bug : Bool) : Opts :=
  { newTime := 2 ^ 32 + 5, newEmsg := [50], encrypted := true, piffs := 1, bugSaio := bug }

/-- outside `shapeOk`: a traf without trun -/
def exNoTrun : Seg := { exSeg with traf := [.tfhd false 0] }

end DashLive.SegmentRewrite
