import DashLive.Lemmas.BoxTree
/-! The payload-agnostic walker, stored-size trees under edits, lazily loaded boxes. -/
namespace DashLive.Boxes
open DashLive.Bytes

theorem walkOkT_of_decBoxes (ctx : SencCtx) : ∀ (fuel tail : Nat) (bs : Bytes) (cs : List Box),
    decBoxes ctx tail fuel bs = some cs → walkOkT tail fuel bs = true
  | 0, tail, bs, cs, h => by
    simp only [decBoxes] at h
    simp only [walkOkT]
    split at h <;> simp_all
  | fuel + 1, tail, bs, cs, h => by
    -- the branches of `decBoxes`: empty input, header, size check, the box and its siblings;
    -- the walker recurses on the same two byte ranges, which the recursion closes
    simp only [decBoxes] at h
    simp only [walkOkT]
    split at h
    · simp [*]
    · next hb =>
      split at h
      · cases h
      · next hh after hd =>
        split at h
        · cases h
        · next hc =>
          simp only [hb, hc, if_false]
          split at h
          · next b tl hbx hr =>
            rw [walkOkT_of_decBoxes ctx fuel _ _ _ hr, Bool.and_true]
            by_cases hk : kindOf hh.typ = .container
            · simp only [hk, if_true] at hbx ⊢
              obtain ⟨ch, hp, _⟩ := Option.map_eq_some_iff.1 hbx
              exact walkOkT_of_decBoxes ctx fuel _ _ _ hp
            · simp [hk]
          · cases h

theorem eraseAll_append (a b : List STree) : eraseAll (a ++ b) = eraseAll a ++ eraseAll b := by
  induction a with
  | nil => simp [eraseAll]
  | cons x xs ih => simp [eraseAll, ih]

theorem encBoxes_append (a b : List Box) : encBoxes (a ++ b) = encBoxes a ++ encBoxes b := by
  induction a with
  | nil => simp [encBoxes]
  | cons x xs ih => simp [encBoxes, ih]

theorem SizeAllOk_iff (cs : List STree) : SizeAllOk cs ↔ ∀ c ∈ cs, c.SizeOk := by
  induction cs with
  | nil => simp [SizeAllOk]
  | cons x xs ih => simp [SizeAllOk, ih]

def lenAll (cs : List STree) : Nat := (encBoxes (eraseAll cs)).length

theorem lenAll_append (a b : List STree) : lenAll (a ++ b) = lenAll a + lenAll b := by
  simp [lenAll, eraseAll_append, encBoxes_append]

@[simp] theorem lenAll_nil : lenAll [] = 0 := rfl

@[simp] theorem lenAll_cons (c : STree) (cs : List STree) :
    lenAll (c :: cs) = (encBox c.erase).length + lenAll cs := by
  simp [lenAll, eraseAll, encBoxes]

theorem eq_take_cons_drop {α : Type} {cs : List α} {i : Nat} {c : α} (h : cs[i]? = some c) :
    cs = cs.take i ++ [c] ++ cs.drop (i + 1) := by
  obtain ⟨hi, rfl⟩ := List.getElem?_eq_some_iff.1 h
  rw [List.append_assoc, List.singleton_append, ← List.drop_eq_getElem_cons hi, List.take_append_drop]

theorem leaf_sizeOk (t : BoxType) (l : Bool) (m : Meta) (p : Payload) :
    (STree.leaf t l m p).SizeOk ↔ m.size = hdrLen t l + (encPayload p).length := by
  simp [STree.SizeOk, encBox_leaf_length]

theorem node_sizeOk {t : BoxType} {l : Bool} {m : Meta} {cs : List STree} :
    (STree.node t l m cs).SizeOk ↔ m.size = hdrLen t l + lenAll cs ∧ SizeAllOk cs := by
  simp [STree.SizeOk, encBox_node_length, lenAll]

theorem erase_node_length (t : BoxType) (l : Bool) (m : Meta) (cs : List STree) :
    (encBox (STree.node t l m cs).erase).length = hdrLen t l + lenAll cs := by
  simp [STree.erase, encBox_node_length, lenAll]

theorem size_of_sizeOk (c : STree) (h : c.SizeOk) : c.size = (encBox c.erase).length := by
  cases c with
  | leaf t l m p => simpa [STree.SizeOk, STree.size, STree.meta, STree.erase] using h
  | node t l m cs =>
    simp only [STree.SizeOk] at h
    simpa [STree.size, STree.meta, STree.erase] using h.1

def LongerBy (n n' : STree) (d : Int) : Prop :=
  n'.SizeOk ∧ ((encBox n'.erase).length : Int) = (encBox n.erase).length + d

/-- every edit of a children list replaces a segment `mid` by `mid'` (`append`: `mid = post = []`;
`insert`: `mid = []`; `remove`: `mid' = []`; an edit inside child `c`: `mid = [c]`, `mid' = [c']`) -/
theorem node_replace {t : BoxType} {l : Bool} {m : Meta} {cs cs' : List STree}
    (pre mid mid' post : List STree) (d : Int)
    (hcs : cs = pre ++ mid ++ post) (hcs' : cs' = pre ++ mid' ++ post)
    (h : (STree.node t l m cs).SizeOk) (hmid : SizeAllOk mid')
    (hd : (lenAll mid' : Int) = lenAll mid + d) :
    LongerBy (.node t l m cs) (.node t l { m with size := (m.size + d).toNat } cs') d := by
  subst hcs hcs'
  simp only [LongerBy, node_sizeOk, erase_node_length, lenAll_append, SizeAllOk_iff, List.mem_append,
    or_imp, forall_and] at h hmid ⊢
  exact ⟨⟨by omega, ⟨h.2.1.1, hmid⟩, h.2.2⟩, by omega⟩

/-- what a local edit must guarantee: the edited node is consistent again and the
`delta` it reports is the change of its encoded length -/
def LocalOk (f : STree → Option (STree × Int)) : Prop :=
  ∀ n n' d, n.SizeOk → f n = some (n', d) → LongerBy n n' d

theorem editAt_sizeOk (f : STree → Option (STree × Int)) (hf : LocalOk f) :
    ∀ (path : List Nat) (t t' : STree) (d : Int), t.SizeOk → STree.editAt f path t = some (t', d) →
      LongerBy t t' d
  | [], t, t', d, ht, h => hf t t' d ht (by simpa [STree.editAt] using h)
  | _ :: _, .leaf _ _ _ _, _, _, _, h => by simp [STree.editAt] at h
  | i :: path, .node ty l m cs, t', d, ht, h => by
    simp only [STree.editAt] at h
    split at h
    · cases h
    · next c hc =>
      split at h
      · cases h
      · next c' delta he =>
        cases h
        obtain ⟨hc', hlen⟩ := editAt_sizeOk f hf path c c' d
          ((SizeAllOk_iff cs).1 (node_sizeOk.1 ht).2 c (List.mem_of_getElem? hc)) he
        have hi := (List.getElem?_eq_some_iff.1 hc).1
        exact node_replace _ [c] [c'] _ d (eq_take_cons_drop hc)
          (by simp [List.set_eq_take_append_cons_drop, hi]) ht (by simp [SizeAllOk, hc'])
          (by simpa using hlen)

theorem editAt_getD_sizeOk (f : STree → Option (STree × Int)) (hf : LocalOk f) (path : List Nat)
    (root : STree) (h : root.SizeOk) : (((root.editAt f path).map (·.1)).getD root).SizeOk := by
  cases hr : root.editAt f path with
  | none => exact h
  | some r => exact (editAt_sizeOk f hf path root r.1 r.2 h hr).1

/-- the edits whose effect on the encoded length `update_size` tracks -/
def Edit.Tracked : Edit → Prop
  | .child _ (.append c) => c.SizeOk
  | .child _ (.insert _ c) => c.SizeOk
  | .child _ (.remove _) => True
  | .setTfdt _ _ => True
  | .setPayload _ _ => False

theorem childEdit_replace {cs cs' : List STree} {d : Int} (path : List Nat) (e : ChildEdit)
    (ha : e.apply cs = some (cs', d)) (hcs : SizeAllOk cs) (he : (Edit.child path e).Tracked) :
    ∃ pre mid mid' post, cs = pre ++ mid ++ post ∧ cs' = pre ++ mid' ++ post ∧
      SizeAllOk mid' ∧ (lenAll mid' : Int) = lenAll mid + d := by
  cases e with
  | append c =>
    cases ha
    exact ⟨cs, [], [c], [], by simp, by simp, ⟨he, trivial⟩, by simp [size_of_sizeOk c he]⟩
  | insert i c =>
    cases ha
    exact ⟨cs.take i, [], [c], cs.drop i, by simp, by simp [insertAt], ⟨he, trivial⟩,
      by simp [size_of_sizeOk c he]⟩
  | remove i =>
    simp only [ChildEdit.apply] at ha
    split at ha
    · next c hci =>
      cases ha
      have hc := (SizeAllOk_iff cs).1 hcs c (List.mem_of_getElem? hci)
      exact ⟨_, [c], [], _, eq_take_cons_drop hci, by simp [List.eraseIdx_eq_take_drop_succ],
        trivial, by simp [size_of_sizeOk c hc]; omega⟩
    · cases ha

theorem edit_sizeOk (root : STree) (e : Edit) (h : root.SizeOk) (he : e.Tracked) :
    ((e.apply root).getD root).SizeOk := by
  cases e with
  | setPayload _ _ => exact he.elim
  | setTfdt path v =>
    refine editAt_getD_sizeOk _ (fun n n' d hn hf => ?_) path root h
    split at hf
    · next x =>
      simp only [Option.some.injEq, Prod.mk.injEq] at hf
      obtain ⟨rfl, rfl⟩ := hf
      simp only [leaf_sizeOk, encPayload] at hn
      have := tfdtAssign_length x v
      simp only [LongerBy, leaf_sizeOk, STree.erase, encBox_leaf_length, encPayload]
      omega
    · cases hf
  | child path ce =>
    refine editAt_getD_sizeOk _ (fun n n' d hn hf => ?_) path root h
    split at hf
    · split at hf
      · next ha =>
        cases hf
        obtain ⟨pre, mid, mid', post, h1, h2, h3, h4⟩ :=
          childEdit_replace path ce ha (node_sizeOk.1 hn).2 he
        exact node_replace pre mid mid' post _ h1 h2 hn h3 h4
      · cases hf
    · cases hf

mutual
theorem encodeAt_spec : ∀ (t : STree) (pos : Nat),
    (t.encodeAt pos).1 = encBox t.erase ∧ (t.encodeAt pos).2.erase = t.erase ∧
    (t.encodeAt pos).2.MetaOk pos
  | .leaf t l m p, pos => by
    simp [STree.encodeAt, STree.erase, STree.MetaOk]
  | .node t l m cs, pos => by
    obtain ⟨h1, h2, h3⟩ := encodeAllAt_spec cs (pos + hdrLen t l)
    refine ⟨?_, ?_, ?_⟩
    · simp only [STree.encodeAt, STree.erase, h1, encBox]
    · simp only [STree.encodeAt, STree.erase, h2]
    · simp only [STree.encodeAt, STree.MetaOk, h1, h2, encBox_node_length]
      exact ⟨trivial, trivial, h3⟩
theorem encodeAllAt_spec : ∀ (cs : List STree) (pos : Nat),
    (encodeAllAt pos cs).1 = encBoxes (eraseAll cs) ∧
    eraseAll (encodeAllAt pos cs).2 = eraseAll cs ∧ MetaAllOk pos (encodeAllAt pos cs).2
  | [], pos => by simp [encodeAllAt, eraseAll, encBoxes, MetaAllOk]
  | c :: cs, pos => by
    obtain ⟨h1, h2, h3⟩ := encodeAt_spec c pos
    obtain ⟨h4, h5, h6⟩ := encodeAllAt_spec cs (pos + (c.encodeAt pos).1.length)
    rw [h1] at h4 h5 h6
    refine ⟨?_, ?_, ?_⟩
    · simp only [encodeAllAt, eraseAll, encBoxes, h1, h4]
    · simp only [encodeAllAt, eraseAll, h1, h2, h5]
    · simp only [encodeAllAt, MetaAllOk, h1, h2]
      exact ⟨h3, h6⟩
end

mutual
theorem encL_of_lazy : ∀ {lt : LBox} {x : Box}, Lazy lt x → encL lt = encBox x
  | _, _, .raw x => by simp [encL]
  | _, _, .leaf t l p => by simp [encL]
  | _, _, .node t l cs xs h => by simp [encL, encBox, encLs_of_lazyAll h]
theorem encLs_of_lazyAll : ∀ {cs : List LBox} {xs : List Box}, LazyAll cs xs → encLs cs = encBoxes xs
  | _, _, .nil => by simp [encLs, encBoxes]
  | _, _, .cons c x cs xs h1 h2 => by simp [encLs, encBoxes, encL_of_lazy h1, encLs_of_lazyAll h2]
end

mutual
theorem force_of_lazy (ctx : SencCtx) : ∀ {lt : LBox} {x : Box}, Lazy lt x → BoxWf ctx x →
    force ctx lt = some x
  | _, _, .raw x, hx => by
    have h := decFile_encBoxes ctx [x] ⟨hx, trivial⟩
    simp only [encBoxes, List.append_nil] at h
    simp [force, h]
  | _, _, .leaf t l p, _ => by simp [force]
  | _, _, .node t l cs xs h, hx => by
    simp only [BoxWf] at hx
    simp [force, forceAll_of_lazyAll ctx h hx.2.2.1]
theorem forceAll_of_lazyAll (ctx : SencCtx) : ∀ {cs : List LBox} {xs : List Box}, LazyAll cs xs →
    BoxesWf ctx xs → forceAll ctx cs = some xs
  | _, _, .nil, _ => by simp [forceAll]
  | _, _, .cons c x cs xs h1 h2, hx => by
    simp only [BoxesWf] at hx
    simp [forceAll, force_of_lazy ctx h1 hx.1, forceAll_of_lazyAll ctx h2 hx.2]
end

end DashLive.Boxes
