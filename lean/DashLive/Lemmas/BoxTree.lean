import DashLive.Lemmas.Box
/-! Box trees: encoded sizes and parse ∘ encode = id (`tree_roundtrip_fuel` needs one unit of fuel per
box; a box takes at least 8 bytes, so the input length, the fuel of `decFile`, is enough). -/
namespace DashLive.Boxes
open DashLive.Bytes

theorem hdrLen_ge (t : BoxType) (l : Bool) (h : t.Wf) : 8 ≤ hdrLen t l := by
  simp only [hdrLen, BoxType.cc_length t h]; omega

/-! leaf and node alike: header fields and the bytes after the header -/
def Box.typ : Box → BoxType
  | .leaf t _ _ | .node t _ _ => t
def Box.large : Box → Bool
  | .leaf _ l _ | .node _ l _ => l
def Box.body : Box → Bytes
  | .leaf _ _ p => encPayload p
  | .node _ _ cs => encBoxes cs

theorem encBox_eq (b : Box) :
    encBox b = encHeader b.typ b.large (hdrLen b.typ b.large + b.body.length) ++ b.body := by
  cases b <;> simp only [encBox, Box.typ, Box.large, Box.body]

theorem encBox_length (b : Box) : (encBox b).length = hdrLen b.typ b.large + b.body.length := by
  rw [encBox_eq, List.length_append, encHeader_length]

theorem encBox_leaf_length (t : BoxType) (l : Bool) (p : Payload) :
    (encBox (.leaf t l p)).length = hdrLen t l + (encPayload p).length := encBox_length _

theorem encBox_node_length (t : BoxType) (l : Bool) (cs : List Box) :
    (encBox (.node t l cs)).length = hdrLen t l + (encBoxes cs).length := encBox_length _

theorem BoxWf.header {ctx : SencCtx} {b : Box} (h : BoxWf ctx b) :
    b.typ.Wf ∧ sizeOk b.large (hdrLen b.typ b.large + b.body.length) := by
  cases b <;> simp only [BoxWf] at h <;> exact ⟨h.1, h.2.2.2⟩

theorem BoxWf.typ_wf {ctx : SencCtx} {b : Box} (h : BoxWf ctx b) :
    match b with
    | .leaf t _ _ => t.Wf
    | .node t _ _ => t.Wf := by
  cases b <;> exact h.header.1

theorem encBox_length_ge {ctx : SencCtx} {b : Box} (h : BoxWf ctx b) : 8 ≤ (encBox b).length := by
  have := hdrLen_ge _ b.large h.header.1
  rw [encBox_length]; omega

theorem decHeader_encBox (ctx : SencCtx) (tl : Nat) (b : Box) (tail : Bytes) (h : BoxWf ctx b) :
    decHeader tl (encBox b ++ tail) =
      some ({ typ := b.typ, large := b.large, toEnd := false, size := (encBox b).length },
        b.body ++ tail) := by
  rw [encBox_length, encBox_eq, List.append_assoc]
  exact decHeader_encHeader tl _ _ _ _ h.header.1 h.header.2

theorem count_pos (b : Box) : 1 ≤ b.count := by
  cases b <;> simp [Box.count]

theorem tree_roundtrip_fuel (ctx : SencCtx) :
    ∀ (fuel : Nat) (tl : Nat) (cs : List Box), BoxesWf ctx cs → countBoxes cs ≤ fuel →
      decBoxes ctx tl fuel (encBoxes cs) = some cs
  | fuel, _, [], _, _ => by cases fuel <;> simp [decBoxes, encBoxes]
  | 0, _, b :: _, _, hc => by have := count_pos b; simp only [countBoxes] at hc; omega
  | fuel + 1, tail, b :: tl, hwf, hc => by
    simp only [BoxesWf] at hwf
    simp only [countBoxes] at hc
    have hcb := count_pos b
    have hlen := encBox_length_ge hwf.1
    have hne : (encBox b ++ encBoxes tl).isEmpty = false :=
      List.isEmpty_eq_false_iff.2 (List.ne_nil_of_length_pos (by rw [List.length_append]; omega))
    have hsz : ¬ ((encBox b).length < hdrLen b.typ b.large ∨
        (encBox b).length + (encBoxes tl).length < (encBox b).length) := by
      rw [encBox_length]; omega
    simp only [encBoxes, decBoxes, hne, Bool.false_eq_true, if_false,
      decHeader_encBox ctx tail b _ hwf.1, Header.hdrSize, List.length_append, hsz]
    -- `size - hdrSize` is `b.body.length`: `take`/`drop` cut between the body and the siblings
    rw [encBox_length, Nat.add_sub_cancel_left, List.take_left' rfl, List.drop_left' rfl,
      tree_roundtrip_fuel ctx fuel tail tl hwf.2 (by omega)]
    cases b with
    | leaf t l p =>
      simp only [BoxWf] at hwf
      simp only [Box.typ, Box.large, Box.body, hwf.1.2.1, if_false,
        decPayload_encPayload ctx _ p hwf.1.2.2.1, Option.map_some]
    | node t l cs =>
      simp only [BoxWf] at hwf
      simp only [Box.count] at hc
      simp only [Box.typ, Box.large, Box.body, hwf.1.2.1, if_true,
        tree_roundtrip_fuel ctx fuel _ cs hwf.1.2.2.1 (by omega), Option.map_some]

mutual
theorem count_le_length (ctx : SencCtx) : ∀ b : Box, BoxWf ctx b → 8 * b.count ≤ (encBox b).length
  | .leaf t l p, h => by
    have := encBox_length_ge h
    simp only [Box.count]; omega
  | .node t l cs, h => by
    have := hdrLen_ge t l h.header.1
    simp only [BoxWf] at h
    have := counts_le_length ctx cs h.2.2.1
    rw [encBox_node_length]; simp only [Box.count]; omega
theorem counts_le_length (ctx : SencCtx) :
    ∀ cs : List Box, BoxesWf ctx cs → 8 * countBoxes cs ≤ (encBoxes cs).length
  | [], _ => by simp [countBoxes]
  | b :: cs, h => by
    simp only [BoxesWf] at h
    have := count_le_length ctx b h.1
    have := counts_le_length ctx cs h.2
    simp only [countBoxes, encBoxes, List.length_append]; omega
end

theorem decFile_encBoxes (ctx : SencCtx) (cs : List Box) (h : BoxesWf ctx cs) :
    decFile ctx (encBoxes cs) = some cs := by
  have := counts_le_length ctx cs h
  exact tree_roundtrip_fuel ctx _ 0 cs h (by omega)

end DashLive.Boxes
