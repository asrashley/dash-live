import DashLive.Model.PlayReady
/-!
Lemmas about `Model/PlayReady.lean` for C11 and the pssh framing C10 shares: each reader undoes its
writer.  `be32_frame_read` is the box header as `decodePssh_head` here and `parse_step` in
`Lemmas/InitRewrite.lean` read it; `foldKey_eq` turns the mutation loop of `generate_content_key` into a
`map`; `len16` names the sixteen bytes of a key id, after which `leGuidBytes` computes.
-/
namespace DashLive.PlayReady

theorem len16 (g : Bytes) (h : g.length = 16) :
    ∃ a0 a1 a2 a3 a4 a5 a6 a7 a8 a9 a10 a11 a12 a13 a14 a15,
      g = [a0, a1, a2, a3, a4, a5, a6, a7, a8, a9, a10, a11, a12, a13, a14, a15] := by
  repeat (obtain ⟨_, g, rfl⟩ := List.exists_cons_of_length_eq_add_one h; replace h := Nat.succ.inj h)
  obtain rfl := List.eq_nil_of_length_eq_zero h
  exact ⟨_, _, _, _, _, _, _, _, _, _, _, _, _, _, _, _, rfl⟩

theorem leGuidBytes_length (g : Bytes) : (leGuidBytes g).length = g.length := by
  have e : ∀ k (l : Bytes), (l.take k).length + (l.drop k).length = l.length := fun k l => by
    rw [← List.length_append, List.take_append_drop]
  have e1 := e 4 g; have e2 := e 2 (g.drop 4); have e3 := e 2 (g.drop 6); have e4 := e 2 (g.drop 8)
  simp only [List.drop_drop, Nat.reduceAdd] at e2 e3 e4
  simp only [leGuidBytes, List.length_append, List.length_reverse]
  omega

theorem foldl_set_range (f : Nat → UInt8) (init : Bytes) (m : Nat) (hm : m ≤ init.length) :
    (List.range m).foldl (fun key i => key.set i (f i)) init = (List.range m).map f ++ init.drop m := by
  induction m with
  | zero => rfl
  | succ m ih =>
    have hl : ((List.range m).map f).length = m := by rw [List.length_map, List.length_range]
    rw [List.range_succ, List.foldl_append, ih (by omega), List.foldl_cons, List.foldl_nil,
      List.set_append_right _ _ (by omega), hl, Nat.sub_self, List.drop_eq_getElem_cons hm,
      List.set_cons_zero, List.map_append, List.append_assoc]
    rfl

theorem foldKey_eq (a b c : Bytes) :
    foldKey a b c = (List.range keySize).map fun i =>
      a.getD i 0 ^^^ a.getD (i + keySize) 0 ^^^ b.getD i 0 ^^^ b.getD (i + keySize) 0
        ^^^ c.getD i 0 ^^^ c.getD (i + keySize) 0 := by
  rw [foldKey, foldl_set_range _ _ keySize (Nat.le_of_eq List.length_replicate.symm),
    List.drop_of_length_le (Nat.le_of_eq List.length_replicate), List.append_nil]

theorem toNat_byte (n : Nat) : (UInt8.ofNat (n % 256)).toNat = n % 256 :=
  UInt8.toNat_ofNat_of_lt' (Nat.mod_lt _ (by decide))

theorem digits32 (n : Nat) (h : n < 4294967296) :
    n % 256 + 256 * (n / 256 % 256) + 65536 * (n / 65536 % 256) + 16777216 * (n / 16777216 % 256) = n := by
  omega

theorem le16val_le16 (n : Nat) (h : n < 65536) (rest : Bytes) : le16val (le16 n ++ rest) = n := by
  simp only [le16val, le16, List.cons_append, List.getD_cons_zero, List.getD_cons_succ, toNat_byte]
  omega

theorem le32val_le32 (n : Nat) (h : n < 4294967296) (rest : Bytes) : le32val (le32 n ++ rest) = n := by
  simp only [le32val, le32, List.cons_append, List.getD_cons_zero, List.getD_cons_succ, toNat_byte]
  exact digits32 n h

theorem be32val_be32 (n : Nat) (h : n < 4294967296) (rest : Bytes) : be32val (be32 n ++ rest) = n := by
  simp only [be32val, be32, List.cons_append, List.getD_cons_zero, List.getD_cons_succ, toNat_byte]
  -- `digits32` has the least significant digit first
  rw [Nat.add_comm _ (n % 256), Nat.add_comm _ (256 * _), Nat.add_comm (16777216 * _), ← Nat.add_assoc,
    ← Nat.add_assoc]
  exact digits32 n h

theorem le16_length (n : Nat) : (le16 n).length = 2 := rfl
theorem le32_length (n : Nat) : (le32 n).length = 4 := rfl
theorem be32_length (n : Nat) : (be32 n).length = 4 := rfl

theorem drop_le16_append (n : Nat) (rest : Bytes) : (le16 n ++ rest).drop 2 = rest := rfl
theorem drop_le32_append (n : Nat) (rest : Bytes) : (le32 n ++ rest).drop 4 = rest := rfl
theorem drop_be32_append (n : Nat) (rest : Bytes) : (be32 n ++ rest).drop 4 = rest := rfl

/-! A box header: 32-bit size, 4-byte type, then the body.  `bs` is a variable tied to that shape by an
equation because both users unfold their reader over `bs` and rewrite with these readings. -/

theorem be32_frame_length {n : Nat} {t body bs : Bytes} (hbs : bs = be32 n ++ (t ++ body))
    (ht : t.length = 4) : bs.length = 8 + body.length := by
  rw [hbs, List.length_append, List.length_append, be32_length, ht]; omega

theorem be32_frame_read {n : Nat} {t body bs : Bytes} (hbs : bs = be32 n ++ (t ++ body))
    (ht : t.length = 4) (hn : n < 4294967296) :
    be32val bs = n ∧ (bs.drop 4).take 4 = t ∧ bs.drop 8 = body := by
  have d4 : bs.drop 4 = t ++ body := by rw [hbs, drop_be32_append]
  refine ⟨by rw [hbs, be32val_be32 _ hn], by rw [d4, List.take_left' ht], ?_⟩
  rw [show (8 : Nat) = 4 + 4 from rfl, ← List.drop_drop, d4, List.drop_left' ht]

/-- the bytes `generate_pro` produces, written out -/
def proBytes (wrm : Bytes) : Bytes :=
  le32 (wrm.length + 10) ++ (le16 1 ++ (le16 1 ++ (le16 wrm.length ++ wrm)))

theorem generatePro_total (wrm : Bytes) :
    generatePro wrm = if wrm.length < 65536 then some (proBytes wrm) else none := by
  have : 2 + (2 + wrm.length) + 6 = wrm.length + 10 := by omega
  by_cases h : wrm.length < 65536
  · simp only [generatePro, Nat.not_le.mpr h, h, if_true, if_false, proBytes, List.append_assoc,
      List.length_append, le16_length, this]
  · simp only [generatePro, Nat.not_lt.mp h, h, if_true, if_false]

theorem proBytes_length (wrm : Bytes) : (proBytes wrm).length = wrm.length + 10 := by
  simp [proBytes, le32_length, le16_length]; omega

theorem parsePro_header (len count : Nat) (hc : count < 65536) (body : Bytes) :
    parsePro (le32 len ++ (le16 count ++ body)) = parseRecords count body := by
  have h6 : ¬ (le32 len ++ (le16 count ++ body)).length < 6 := by
    simp only [List.length_append, le32_length, le16_length]; omega
  rw [parsePro, if_neg h6, drop_le32_append, le16val_le16 _ hc]
  rfl

theorem parseRecords_type1 (n : Nat) (w rest : Bytes) (hw : w.length < 65536) :
    parseRecords (n + 1) (le16 1 ++ (le16 w.length ++ (w ++ rest)))
      = (parseRecords n rest).map (⟨1, w.length, some w⟩ :: ·) := by
  have h4 : ¬ (le16 1 ++ (le16 w.length ++ (w ++ rest))).length < 4 := by
    simp only [List.length_append, le16_length]; omega
  have d4 : (le16 1 ++ (le16 w.length ++ (w ++ rest))).drop 4 = w ++ rest := rfl
  have hl : ¬ (w ++ rest).length < w.length := by rw [List.length_append]; omega
  simp only [parseRecords, h4, if_false, le16val_le16 1 (by decide), drop_le16_append, le16val_le16 _ hw,
    if_true, d4, hl, List.take_left' rfl, List.drop_left' rfl]

theorem parsePro_proBytes (wrm : Bytes) (h : wrm.length < 65536) :
    parsePro (proBytes wrm) = some [⟨1, wrm.length, some wrm⟩] := by
  have := parseRecords_type1 0 wrm [] h
  rw [List.append_nil] at this
  rw [proBytes, parsePro_header _ 1 (by decide), this]
  rfl

theorem proBytes_length_field (wrm : Bytes) (h : wrm.length < 65536) :
    le32val (proBytes wrm) = (proBytes wrm).length := by
  rw [proBytes_length]
  unfold proBytes
  rw [le32val_le32]
  omega

theorem takeKids_flatten (kids : List Bytes) (hk : ∀ k ∈ kids, k.length = 16) (rest : Bytes) :
    takeKids kids.length (kids.flatten ++ rest) = some (kids, rest) := by
  induction kids with
  | nil => rfl
  | cons k ks ih =>
    have hk16 : k.length = 16 := hk k (List.mem_cons_self ..)
    have hlen : ¬ (k ++ (ks.flatten ++ rest)).length < 16 := by rw [List.length_append]; omega
    simp only [List.length_cons, List.flatten_cons, List.append_assoc, takeKids, hlen, if_false,
      List.drop_left' hk16, List.take_left' hk16, ih fun x hx => hk x (List.mem_cons_of_mem _ hx)]
    rfl

/-- past the 28-byte head `decodePssh` answers from `rest` alone: the right side is the rest of its body -/
theorem decodePssh_head (v : Nat) (sys rest : Bytes) (hv : v < 256) (hs : sys.length = 16)
    (h4 : 4 ≤ rest.length) {bs : Bytes}
    (hbs : bs = be32 (8 + ([UInt8.ofNat v, 0, 0, 0] ++ (sys ++ rest)).length)
      ++ (psshType ++ ([UInt8.ofNat v, 0, 0, 0] ++ (sys ++ rest))))
    (hsz : bs.length < 4294967296) :
    decodePssh bs
      = match (if v > 0 then
                if rest.length < 4 then none else takeKids (be32val rest) (rest.drop 4)
              else some ([], rest) : Option (List Bytes × Bytes)) with
        | none => none
        | some (kids, r) =>
          if r.length < 4 then none else
          if be32val r ≠ (r.drop 4).length then none else some ⟨v, sys, kids, r.drop 4⟩ := by
  have hlen := be32_frame_length hbs (t := psshType) rfl
  obtain ⟨hval, ht, hd8⟩ := be32_frame_read hbs (t := psshType) rfl (hlen ▸ hsz)
  have hver : (bs.getD 8 0).toNat = v := by rw [hbs]; exact UInt8.toNat_ofNat_of_lt' hv
  have hd12 : bs.drop 12 = sys ++ rest := by
    rw [show (12 : Nat) = 8 + 4 from rfl, ← List.drop_drop, hd8]; rfl
  have hd28 : bs.drop 28 = rest := by
    rw [show (28 : Nat) = 12 + 16 from rfl, ← List.drop_drop, hd12, List.drop_left' hs]
  have h32 : ¬ 8 + ([UInt8.ofNat v, 0, 0, 0] ++ (sys ++ rest)).length < 32 := by
    simp only [List.length_append, List.length_cons, List.length_nil, hs]; omega
  unfold decodePssh
  simp only [hval, hlen, ht, hver, hd12, hd28, List.take_left' hs, ne_eq, not_true_eq_false, if_false, h32]
  rfl

theorem length_flatten_of_forall {n : Nat} (l : List Bytes) (h : ∀ k ∈ l, k.length = n) :
    l.flatten.length = n * l.length := by
  induction l with
  | nil => rfl
  | cons k ks ih =>
    rw [List.flatten_cons, List.length_append, h k (List.mem_cons_self ..),
      ih fun x hx => h x (List.mem_cons_of_mem _ hx), List.length_cons, Nat.mul_succ, Nat.add_comm]

theorem be32_append_not_short (n : Nat) (rest : Bytes) : ¬ (be32 n ++ rest).length < 4 := by
  rw [List.length_append, be32_length]; omega

theorem decodePssh_encodePssh (v : Nat) (sys : Bytes) (kids : List Bytes) (data : Bytes)
    (hv : v < 256) (hv0 : v = 0 → kids = []) (hs : sys.length = 16)
    (hk : ∀ k ∈ kids, k.length = 16)
    (hsz : (encodePssh v sys kids data).length < 4294967296) :
    decodePssh (encodePssh v sys kids data) = some ⟨v, sys, kids, data⟩ := by
  -- head ‖ rest with rest = [count ‖ key ids] ‖ length ‖ payload
  rw [decodePssh_head v sys
    ((if v > 0 then be32 kids.length ++ kids.flatten else []) ++ (be32 data.length ++ data)) hv hs
    (by simp only [List.length_append, be32_length]; omega)
    (by simp only [encodePssh, psshBody, List.append_assoc]) hsz]
  simp only [encodePssh, psshBody, List.length_append, be32_length] at hsz
  have hd : data.length < 4294967296 := by omega
  by_cases hv1 : v > 0
  · rw [if_pos hv1, List.length_append, length_flatten_of_forall kids hk] at hsz
    simp only [if_pos hv1, List.append_assoc, be32_append_not_short, if_false,
      be32val_be32 _ (by omega : kids.length < 4294967296), drop_be32_append, takeKids_flatten kids hk,
      be32val_be32 _ hd, ne_eq, not_true_eq_false]
  · simp only [if_neg hv1, List.nil_append, be32_append_not_short, be32val_be32 _ hd, drop_be32_append,
      if_false, ne_eq, not_true_eq_false, hv0 (by omega)]

/-! The decoder's equations are stated for a unit / pair / scalar *in front of any rest*, so the
round trip is an induction over the text that never inspects the encoded tail. -/

theorem unitLE_val {u : Nat} (hu : u < 65536) :
    (UInt8.ofNat (u % 256)).toNat + 256 * (UInt8.ofNat (u / 256)).toNat = u := by
  rw [toNat_byte, UInt8.toNat_ofNat_of_lt' (Nat.div_lt_of_lt_mul hu), Nat.mod_add_div]

theorem decodeUtf16le_bmp {u : Nat} (hu : u < 65536) (hs : ¬ (0xD800 ≤ u ∧ u < 0xE000)) (rest : Bytes) :
    decodeUtf16le (unitLE u ++ rest) = (decodeUtf16le rest).map (u :: ·) := by
  have n1 : ¬ (0xD800 ≤ u ∧ u < 0xDC00) := by omega
  have n2 : ¬ (0xDC00 ≤ u ∧ u < 0xE000) := by omega
  match rest with
  | [] => simp only [unitLE, List.cons_append, List.nil_append, decodeUtf16le, unitLE_val hu, hs, if_false]; rfl
  | [_] => simp only [unitLE, List.cons_append, List.nil_append, decodeUtf16le]; rfl
  | c :: d :: rest =>
    simp only [unitLE, List.cons_append, List.nil_append, decodeUtf16le, unitLE_val hu, n1, n2, if_false]

theorem decodeUtf16le_pair {u v c : Nat} (hu : 0xD800 ≤ u ∧ u < 0xDC00) (hv : 0xDC00 ≤ v ∧ v < 0xE000)
    (hc : 0x10000 + (u - 0xD800) * 1024 + (v - 0xDC00) = c) (rest : Bytes) :
    decodeUtf16le (unitLE u ++ (unitLE v ++ rest)) = (decodeUtf16le rest).map (c :: ·) := by
  subst hc
  simp only [unitLE, List.cons_append, List.nil_append, decodeUtf16le, unitLE_val (by omega : u < 65536),
    unitLE_val (by omega : v < 65536), hu, hv, and_self, if_true]

theorem decodeUtf16le_scalar {c : Nat} (h1 : c < 0x110000) (h2 : ¬ (0xD800 ≤ c ∧ c < 0xE000)) (rest : Bytes) :
    decodeUtf16le ((utf16Units c).flatMap unitLE ++ rest) = (decodeUtf16le rest).map (c :: ·) := by
  unfold utf16Units
  split
  · rw [List.flatMap_cons, List.flatMap_nil, List.append_nil, decodeUtf16le_bmp (by omega) h2]
  · rw [List.flatMap_cons, List.flatMap_cons, List.flatMap_nil, List.append_nil, List.append_assoc,
      decodeUtf16le_pair (c := c) (by omega) (by omega) (by omega)]

theorem decodeUtf16le_utf16le (s : List Nat) (hs : ∀ c ∈ s, c < 0x110000 ∧ ¬ (0xD800 ≤ c ∧ c < 0xE000))
    (rest : Bytes) : decodeUtf16le (utf16le s ++ rest) = (decodeUtf16le rest).map (s ++ ·) := by
  induction s with
  | nil => simp [utf16le]
  | cons c cs ih =>
    obtain ⟨h1, h2⟩ := hs c (List.mem_cons_self ..)
    rw [utf16le, List.flatMap_cons, List.append_assoc, decodeUtf16le_scalar h1 h2, ← utf16le,
      ih fun x hx => hs x (List.mem_cons_of_mem _ hx), Option.map_map]
    rfl

theorem decode_utf16le (s : List Nat) (hs : ∀ c ∈ s, c < 0x110000 ∧ ¬ (0xD800 ≤ c ∧ c < 0xE000)) :
    decodeUtf16le (utf16le s) = some s := by
  have := decodeUtf16le_utf16le s hs []
  rwa [List.append_nil, decodeUtf16le, Option.map_some, List.append_nil] at this

end DashLive.PlayReady
