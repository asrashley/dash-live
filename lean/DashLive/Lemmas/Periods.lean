import DashLive.Model.Periods
import DashLive.Lemmas.Timeline
import DashLive.Lemmas.Avail
/-! Lemmas for C12 (`Model/Periods.lean`).  The live loop is read as a walk along the global
period sequence: `startG` of `Model/Segments.lean` with the period durations as the list and
their sum as the loop length.  Entry points: `periodAt` (the Period at a position), `Window`
and `liveLoop_spec`, `livePeriodsFrom_char` (a returned list as positions `[s, e)` of a window);
`nearest_of_midpoints` (the segment `index` selects); `Listed`, `periodTimeline_closed` (the
`<S>` list of a Period in closed form). -/
namespace DashLive.Periods
open DashLive.Segments

section
variable (ps : List PeriodDef)

theorem getD_dur (i : Nat) :
    (ps.getD i { pid := [], dur := 0 }).dur = durAt (durations ps) i := by
  unfold durAt durations
  rw [List.getD_eq_getElem?_getD, List.getD_eq_getElem?_getD, List.getElem?_map]
  cases ps[i]? <;> rfl

theorem durations_length : (durations ps).length = ps.length := by
  simp [durations]

theorem durAt_durations (i : Nat) (h : i < ps.length) :
    durAt (durations ps) i = ps[i].dur := by
  rw [← getD_dur, ← List.getElem_eq_getD]

theorem vodLoop_durs : ∀ s, (vodLoop ps s).1.map (·.dur) = durations ps := by
  induction ps with
  | nil => intro s; rfl
  | cons q qs ih => intro s; simp [vodLoop, durations, ih]

theorem vodLoop_length (s : Nat) : (vodLoop ps s).1.length = ps.length := by
  rw [← durations_length, ← vodLoop_durs ps s, List.length_map]

theorem vodLoop_end : ∀ s, (vodLoop ps s).2 = s + totalDuration ps := by
  induction ps with
  | nil => intro s; simp [vodLoop, totalDuration, durations]
  | cons p ps ih =>
    intro s
    simp only [vodLoop, ih]
    simp only [totalDuration, durations, List.map_cons, List.sum_cons]
    omega

theorem vodLoop_getElem :
    ∀ s i (h : i < (vodLoop ps s).1.length) (h' : i < ps.length),
      (vodLoop ps s).1[i] =
        { id := ps[i].pid, start := s + prefixSum (durations ps) i, dur := ps[i].dur } := by
  induction ps with
  | nil => intro s i h h'; simp at h'
  | cons p ps ih =>
    intro s i h h'
    cases i with
    | zero => simp [vodLoop, prefixSum]
    | succ i =>
      have hi : i < ps.length := by simpa using h'
      have := ih (s + p.dur) i (by rw [vodLoop_length]; exact hi) hi
      simp only [vodLoop, List.getElem_cons_succ, this]
      simp only [durations, prefixSum, List.map_cons, List.take_succ_cons, List.sum_cons]
      congr 1
      omega

theorem vodPeriods_length : (vodPeriods ps).length = ps.length :=
  vodLoop_length ps 0

theorem vodPeriods_getElem (i : Nat) (h : i < (vodPeriods ps).length) :
    (vodPeriods ps)[i] =
      { id := (ps[i]'(Nat.lt_of_lt_of_eq h (vodPeriods_length ps))).pid
        start := prefixSum (durations ps) i
        dur := (ps[i]'(Nat.lt_of_lt_of_eq h (vodPeriods_length ps))).dur } := by
  unfold vodPeriods
  rw [vodLoop_getElem ps 0 i h (Nat.lt_of_lt_of_eq h (vodPeriods_length ps)), Nat.zero_add]

end

theorem forall_from_succ {P : Nat → Prop} {g e : Nat} (h0 : P g) (h : ∀ x, g + 1 ≤ x → x < e → P x) :
    ∀ x, g ≤ x → x < e → P x :=
  fun x h1 h2 => (Nat.eq_or_lt_of_le h1).elim (· ▸ h0) (h x · h2)

theorem exists_between (f : Nat → Nat) (t : Nat) : ∀ d s, f s ≤ t → t < f (s + d) →
    ∃ x, s ≤ x ∧ x < s + d ∧ f x ≤ t ∧ t < f (x + 1) := by
  intro d
  induction d with
  | zero => intro s h1 h2; exact absurd h2 (Nat.not_lt.mpr h1)
  | succ d ih =>
    intro s h1 h2
    by_cases hm : t < f (s + 1)
    · exact ⟨s, Nat.le_refl _, Nat.lt_add_of_pos_right (Nat.succ_pos d), h1, hm⟩
    · rw [← Nat.add_assoc, Nat.add_right_comm] at h2 ⊢
      obtain ⟨x, a, b⟩ := ih (s + 1) (Nat.le_of_not_lt hm) h2
      exact ⟨x, Nat.le_of_succ_le a, b⟩

/-- What the live loop computes from position `g`, `S x` being the start of position `x` and
`S (x + 1)` its end: `[g, e)` start at or before `E`, `e` starts after `E`; of these `[g, s)` end
before `F` and `[s, e)` at or after `F`. -/
structure Window (S : Nat → Nat) (E F g s e : Nat) : Prop where
  le_s : g ≤ s
  le_e : s ≤ e
  start_le : ∀ x, g ≤ x → x < e → S x ≤ E
  lt_start : E < S e
  end_lt : ∀ x, g ≤ x → x < s → S (x + 1) < F
  le_end : ∀ x, s ≤ x → x < e → F ≤ S (x + 1)

namespace Window
variable {S : Nat → Nat} {E F g s e : Nat}

theorem empty (h : E < S g) : Window S E F g g g :=
  have vac {P : Nat → Prop} : ∀ x, g ≤ x → x < g → P x := fun _ h1 h2 => absurd h2 (Nat.not_lt.mpr h1)
  { le_s := Nat.le_refl g, le_e := Nat.le_refl g, start_le := vac, lt_start := h, end_lt := vac,
    le_end := vac }

theorem skip (w : Window S E F (g + 1) s e) (hle : S g ≤ E) (hk : S (g + 1) < F) :
    Window S E F g s e :=
  { le_s := Nat.le_of_succ_le w.le_s, le_e := w.le_e, start_le := forall_from_succ hle w.start_le,
    lt_start := w.lt_start, end_lt := forall_from_succ hk w.end_lt, le_end := w.le_end }

/-- after a kept position all later ones are kept too, since ends do not decrease -/
theorem s_eq (w : Window S E F (g + 1) s e) (hk : F ≤ S (g + 1)) (hmono : ∀ x, S x ≤ S (x + 1)) :
    s = g + 1 :=
  (Nat.eq_or_lt_of_le w.le_s).elim Eq.symm fun h =>
    absurd (w.end_lt (g + 1) (Nat.le_refl _) h) (Nat.not_lt.mpr (Nat.le_trans hk (hmono _)))

theorem keep (w : Window S E F (g + 1) (g + 1) e) (hle : S g ≤ E) (hk : F ≤ S (g + 1)) :
    Window S E F g g e :=
  { le_s := Nat.le_refl g, le_e := Nat.le_of_succ_le w.le_e, start_le := forall_from_succ hle w.start_le,
    lt_start := w.lt_start, end_lt := fun _ h1 h2 => absurd h2 (Nat.not_lt.mpr h1),
    le_end := forall_from_succ hk w.le_end }

theorem first_le (w : Window S E F g s e) (h0 : S g ≤ F) : S s ≤ F := by
  rcases Nat.eq_or_lt_of_le w.le_s with rfl | h
  · exact h0
  · obtain ⟨k, rfl⟩ := Nat.exists_eq_add_one.mpr (Nat.zero_lt_of_lt h)
    exact Nat.le_of_lt (w.end_lt k (Nat.le_of_lt_succ h) (Nat.lt_succ_self k))

/-- at least one position is kept: else `E < S e = S s ≤ F` -/
theorem lt (w : Window S E F g s e) (h0 : S g ≤ F) (hFE : F ≤ E) : s < e :=
  (Nat.eq_or_lt_of_le w.le_e).elim
    (fun h => absurd (Nat.le_trans (h ▸ w.first_le h0) hFE) (Nat.not_le.mpr w.lt_start)) id

theorem cover (w : Window S E F g s e) (h0 : S g ≤ F) (t : Nat) (h1 : F ≤ t) (h2 : t ≤ E) :
    ∃ x, s ≤ x ∧ x < e ∧ S x ≤ t ∧ t < S (x + 1) := by
  obtain ⟨d, rfl⟩ := Nat.exists_eq_add_of_le w.le_e
  exact exists_between S t d s (Nat.le_trans (w.first_le h0) h1) (Nat.lt_of_le_of_lt h2 w.lt_start)

end Window

/-- the period the live loop emits for position `g` of the endless sequence -/
def periodAt (ps : List PeriodDef) (g : Nat) : OutPeriod :=
  { id := renderId (ps.getD (g % ps.length) { pid := [], dur := 0 }).pid (g / ps.length)
    start := startG (durations ps) (totalDuration ps) g
    dur := (ps.getD (g % ps.length) { pid := [], dur := 0 }).dur }

section
variable (ps : List PeriodDef) (E F : Nat)

theorem periodAt_eq (g : Nat) (hn : 0 < ps.length) :
    periodAt ps g = { id := renderId (ps[g % ps.length]'(Nat.mod_lt g hn)).pid (g / ps.length)
                      start := startG (durations ps) (totalDuration ps) g
                      dur := (ps[g % ps.length]'(Nat.mod_lt g hn)).dur } := by
  unfold periodAt
  rw [← List.getElem_eq_getD]

/-- no drift, since the loop length is the sum of the durations: every position starts where the
previous one ends, across loop boundaries too -/
theorem periodAt_end (g : Nat) (hn : 0 < ps.length) :
    (periodAt ps g).start + (periodAt ps g).dur = (periodAt ps (g + 1)).start := by
  have hd : durG (durations ps) g = (periodAt ps g).dur := by
    unfold periodAt durG
    rw [getD_dur, durations_length]
  have h := startG_succ (durations ps) (totalDuration ps) g (by rw [durations_length]; exact hn)
  -- the drift `R − Σ durs` on the last segment of a loop is zero here
  simp only [durG', totalDuration, Int.sub_self, ite_self, Int.add_zero, hd] at h
  exact_mod_cast h.symm

theorem periodAt_start_mono (hn : 0 < ps.length) {a b : Nat} (h : a ≤ b) :
    (periodAt ps a).start ≤ (periodAt ps b).start := by
  induction h with
  | refl => exact Nat.le_refl _
  | step _ ih => exact Nat.le_trans ih (by rw [← periodAt_end ps _ hn]; exact Nat.le_add_right _ _)

theorem periodAt_loop_start (nl : Nat) (hn : 0 < ps.length) :
    (periodAt ps (nl * ps.length)).start = nl * totalDuration ps := by
  have := startG_mul (durations ps) (totalDuration ps) nl (by rw [durations_length]; exact hn)
  rwa [durations_length] at this

theorem lt_periodAt_start (g : Nat) (hD : 0 < totalDuration ps) (hn : 0 < ps.length)
    (hg : (E / totalDuration ps + 1) * ps.length ≤ g) : E < (periodAt ps g).start := by
  have h1 := Nat.mul_le_mul_right (totalDuration ps) ((Nat.le_div_iff_mul_le hn).mpr hg)
  have h2 := Nat.lt_div_mul_add (a := E) hD
  rw [Nat.add_mul, Nat.one_mul] at h1
  simp only [periodAt, startG, durations_length]
  omega

/-- the Python state `(start, index, num_loops)` at position `g` is `((periodAt ps g).start, g % n, g / n)` -/
theorem liveLoop_succ (fuel g : Nat) (hn : 0 < ps.length) :
    liveLoop ps E F (fuel + 1) (periodAt ps g).start (g % ps.length) (g / ps.length) =
      if (periodAt ps g).start ≤ E then
        match liveLoop ps E F fuel (periodAt ps (g + 1)).start ((g + 1) % ps.length) ((g + 1) / ps.length) with
        | none => none
        | some rest => if F ≤ (periodAt ps (g + 1)).start then some (periodAt ps g :: rest) else some rest
      else some [] := by
  have h2 : (if (g + 1) % ps.length = 0 then g / ps.length + 1 else g / ps.length) = (g + 1) / ps.length := by
    rw [Nat.succ_div]
    simp only [Nat.dvd_iff_mod_eq_zero]
    split <;> rfl
  have h3 := periodAt_end ps g hn
  simp only [periodAt] at h3 ⊢
  rw [liveLoop]
  simp only [Nat.mod_add_mod, h2, h3, ge_iff_le]
  rfl

/-- **the live loop is a walk along the global sequence**: a run from the state of position `g`
either exhausts its fuel, every position in reach starting at or before `E`, or returns exactly
the positions `s … e − 1` of the window at `g`. -/
theorem liveLoop_spec (hn : 0 < ps.length) :
    ∀ fuel g,
      (liveLoop ps E F fuel (periodAt ps g).start (g % ps.length) (g / ps.length) = none ∧
        ∀ x, g ≤ x → x < g + fuel → (periodAt ps x).start ≤ E) ∨
      ∃ s e, Window (fun x => (periodAt ps x).start) E F g s e ∧
        liveLoop ps E F fuel (periodAt ps g).start (g % ps.length) (g / ps.length)
          = some ((List.range' s (e - s)).map (periodAt ps)) := by
  intro fuel
  induction fuel with
  | zero => intro g; exact .inl ⟨rfl, fun x h1 h2 => by omega⟩
  | succ f ih =>
    intro g
    rw [liveLoop_succ ps E F f g hn]
    by_cases hle : (periodAt ps g).start ≤ E
    · rw [if_pos hle]
      rcases ih (g + 1) with ⟨hnone, hall⟩ | ⟨s, e, w, hsome⟩
      · rw [hnone]
        refine .inl ⟨rfl, fun x h1 h2 => ?_⟩
        rcases Nat.eq_or_lt_of_le h1 with rfl | h
        · exact hle
        · exact hall x h (by omega)
      · rw [hsome]
        dsimp only
        right
        by_cases hk : F ≤ (periodAt ps (g + 1)).start
        · obtain rfl := w.s_eq hk fun x => periodAt_start_mono ps hn (Nat.le_succ x)
          refine ⟨g, e, w.keep hle hk, ?_⟩
          have : e - g = (e - (g + 1)) + 1 := by have := w.le_e; omega
          rw [if_pos hk, this, List.range'_succ, List.map_cons]
        · exact ⟨s, e, w.skip hle (Nat.lt_of_not_le hk), by rw [if_neg hk]⟩
    · rw [if_neg hle]
      exact .inr ⟨g, g, .empty (Nat.lt_of_not_le hle), by simp⟩

/-- the loop leaves at the latest at the first period of loop `E / D + 1`: where `liveFuel` comes from -/
theorem liveLoop_terminates (hn : 0 < ps.length)
    (hD : 0 < totalDuration ps) (fuel g : Nat)
    (hf : (E / totalDuration ps + 1) * ps.length + 1 ≤ g + fuel) (h1 : 1 ≤ fuel) :
    ∃ l, liveLoop ps E F fuel (periodAt ps g).start (g % ps.length) (g / ps.length) = some l := by
  rcases liveLoop_spec ps E F hn fuel g with ⟨_, hall⟩ | ⟨s, e, _, h⟩
  · have := hall (max g ((E / totalDuration ps + 1) * ps.length)) (by omega) (by omega)
    have := lt_periodAt_start ps E _ hD hn (Nat.le_max_right g _)
    omega
  · exact ⟨_, h⟩

/-- with total duration 0 every position starts at 0, so the loop never leaves.  (The Python does
not get this far: the loop count division raises `ZeroDivisionError` first.) -/
theorem liveLoop_zero_diverges (hn : 0 < ps.length)
    (hD : totalDuration ps = 0) (fuel g : Nat) :
    liveLoop ps E F fuel (periodAt ps g).start (g % ps.length) (g / ps.length) = none := by
  rcases liveLoop_spec ps E F hn fuel g with ⟨h, _⟩ | ⟨s, e, w, _⟩
  · exact h
  · have h1 := w.lt_start
    have h2 : prefixSum (durations ps) (e % (durations ps).length) ≤ totalDuration ps := prefixSum_le_sum _ _
    simp only [periodAt, startG, hD] at h1 h2
    omega

theorem length_pos_of_totalDuration_pos {ps : List PeriodDef} (hD : 0 < totalDuration ps) : 0 < ps.length := by
  cases ps with
  | nil => simp [totalDuration, durations] at hD
  | cons p ps => simp

theorem livePeriodsFrom_state (nl : Nat) (hn : 0 < ps.length) :
    livePeriodsFrom ps E F nl =
      liveLoop ps E F (liveFuel ps E) (periodAt ps (nl * ps.length)).start
        ((nl * ps.length) % ps.length) ((nl * ps.length) / ps.length) := by
  rw [periodAt_loop_start ps nl hn, Nat.mul_mod_left, Nat.mul_div_cancel _ hn, Nat.mul_comm]
  rfl

theorem livePeriodsFrom_char {ps : List PeriodDef} {E F nl : Nat} {l : List OutPeriod}
    (hn : 0 < ps.length) (h : livePeriodsFrom ps E F nl = some l) :
    ∃ s e, Window (fun x => (periodAt ps x).start) E F (nl * ps.length) s e ∧
      l = (List.range' s (e - s)).map (periodAt ps) := by
  rw [livePeriodsFrom_state ps E F nl hn] at h
  rcases liveLoop_spec ps E F hn (liveFuel ps E) (nl * ps.length) with ⟨h', _⟩ | ⟨s, e, w, h'⟩
  · rw [h'] at h; cases h
  · exact ⟨s, e, w, Option.some.inj (h.symm.trans h')⟩

theorem mem_map_range' {α : Type} {f : Nat → α} {s e : Nat} {a : α} :
    a ∈ (List.range' s (e - s)).map f ↔ ∃ x, s ≤ x ∧ x < e ∧ a = f x := by
  simp only [List.mem_map, List.mem_range'_1]
  constructor
  · rintro ⟨x, hx, rfl⟩; exact ⟨x, hx.1, by omega, rfl⟩
  · rintro ⟨x, h1, h2, rfl⟩; exact ⟨x, ⟨h1, by omega⟩, rfl⟩

end

theorem split_at_last {α : Type} {c : α} : ∀ (a a' b b' : List α), c ∉ b → c ∉ b' →
    a ++ c :: b = a' ++ c :: b' → a = a' ∧ b = b'
  | [], [], _, _, _, _, h => ⟨rfl, (List.cons.inj h).2⟩
  | [], _ :: a', _, _, hb, _, h =>
    absurd ((List.cons.inj h).2 ▸ List.mem_append_right a' List.mem_cons_self) hb
  | _ :: a, [], _, _, _, hb', h =>
    absurd ((List.cons.inj h).2 ▸ List.mem_append_right a List.mem_cons_self) hb'
  | _ :: a, _ :: a', b, b', hb, hb', h =>
    have ⟨h1, h2⟩ := List.cons.inj h
    have ⟨r1, r2⟩ := split_at_last a a' b b' hb hb' h2
    ⟨h1 ▸ r1 ▸ rfl, r2⟩

theorem toDigits_inj {m n : Nat} (h : Nat.toDigits 10 m = Nat.toDigits 10 n) : m = n := by
  have h1 := Nat.ofDigitChars_ten_toDigits (n := m)
  have h2 := Nat.ofDigitChars_ten_toDigits (n := n)
  rw [h] at h1
  omega

theorem renderId_inj {p q : List Char} {m n : Nat} (h : renderId p m = renderId q n) : p = q ∧ m = n := by
  unfold renderId at h
  obtain ⟨h1, h2⟩ := split_at_last p q _ _ Nat.underscore_not_in_toDigits Nat.underscore_not_in_toDigits h
  exact ⟨h1, toDigits_inj h2⟩

/-- `|a − b|` on `Nat`: one of the two truncated differences is 0 -/
def dist (a b : Nat) : Nat := (a - b) + (b - a)

theorem startG_of_lt {durs : List Nat} {g : Nat} (R : Nat) (h : g < durs.length) :
    startG durs R g = prefixSum durs g := by
  unfold startG
  rw [Nat.div_eq_of_lt h, Nat.mod_eq_of_lt h, Nat.zero_mul, Nat.zero_add]

theorem before_of_lt {durs : List Nat} {g : Nat} (R tc : Nat) (h : g < durs.length) :
    before durs R tc g ↔ prefixSum durs g + durAt durs g / 2 < tc := by
  unfold before durG
  rw [startG_of_lt R h, Nat.mod_eq_of_lt h]

section
variable (durs : List Nat) (R tc : Nat)

theorem lt_of_index_lt (hR : 0 < R) (hn : 0 < durs.length) (hin : index durs R tc < durs.length) :
    tc < R := by
  have a := (index_spec durs R tc hR hn).1
  refine Nat.lt_of_not_le fun hq => ?_
  have := Nat.mul_le_mul_right durs.length ((Nat.le_div_iff_mul_le hR).mpr (by omega : 1 * R ≤ tc))
  omega

theorem le_midpoint_index (hR : 0 < R) (hn : 0 < durs.length) (hin : index durs R tc < durs.length) :
    tc ≤ prefixSum durs (index durs R tc) + durAt durs (index durs R tc) / 2 := by
  obtain ⟨_, _, c, _⟩ := index_spec durs R tc hR hn
  rw [before_of_lt R tc hin] at c
  exact Nat.le_of_not_lt c

theorem midpoint_lt_of_lt_index (hR : 0 < R) (hn : 0 < durs.length)
    (hin : index durs R tc < durs.length) {j : Nat} (hj : j < index durs R tc) :
    prefixSum durs j + durAt durs j / 2 < tc := by
  obtain ⟨_, _, _, d⟩ := index_spec durs R tc hR hn
  rw [Nat.div_eq_of_lt (lt_of_index_lt durs R tc hR hn hin), Nat.zero_mul] at d
  exact (before_of_lt R tc (Nat.lt_trans hj hin)).mp (d j (Nat.zero_le _) hj)

/-- when a Period is not refused by fix 9437abb: the search stays inside the first loop exactly when
the offset is inside the reference duration and not past the middle of the last segment -/
theorem index_lt_iff (hR : 0 < R) (hn : 0 < durs.length) :
    index durs R tc < durs.length ↔
      tc < R ∧ tc ≤ prefixSum durs (durs.length - 1) + durAt durs (durs.length - 1) / 2 := by
  obtain ⟨m, hm⟩ := Nat.exists_eq_add_one.mpr hn
  rw [hm, Nat.add_sub_cancel]
  constructor
  · intro h
    have hmid := le_midpoint_index durs R tc hR hn (hm ▸ h)
    refine ⟨lt_of_index_lt durs R tc hR hn (hm ▸ h), ?_⟩
    generalize index durs R tc = i at h hmid
    rcases Nat.eq_or_lt_of_le (Nat.le_of_lt_succ h) with rfl | hq
    · exact hmid
    · have hs := prefixSum_succ (durs := durs) (k := i) (hm ▸ h)
      have hmono := prefixSum_mono durs (show i + 1 ≤ m from hq)
      omega
  · intro ⟨hlt, hlast⟩
    refine Nat.lt_of_not_le fun hq => ?_
    have hb := (index_spec durs R tc hR hn).2.2.2 m
      (by rw [Nat.div_eq_of_lt hlt, Nat.zero_mul]; exact Nat.zero_le _)
      (Nat.lt_of_lt_of_le (Nat.lt_succ_self m) hq)
    rw [before_of_lt R tc (hm ▸ Nat.lt_succ_self m)] at hb
    exact absurd hb (Nat.not_lt.mpr hlast)

theorem dist_le_of_midpoint {x y tc : Nat}
    (h : (y ≤ x ∧ x + y ≤ 2 * tc) ∨ (x ≤ y ∧ 2 * tc ≤ x + y)) : dist x tc ≤ dist y tc := by
  unfold dist
  omega

theorem nearest_of_midpoints (i : Nat) (hi : i < durs.length)
    (hmid : tc ≤ prefixSum durs i + durAt durs i / 2)
    (hbefore : ∀ j, j < i → prefixSum durs j + durAt durs j / 2 < tc) (j : Nat) :
    dist (prefixSum durs i) tc ≤ dist (prefixSum durs j) tc := by
  rcases Nat.lt_trichotomy j i with h | rfl | h
  · -- an earlier segment: `tc` is past the midpoint of the segment before `i`
    obtain ⟨k, rfl⟩ := Nat.exists_eq_add_one.mpr (Nat.zero_lt_of_lt h)
    have hb := hbefore k (Nat.lt_succ_self k)
    have hs := prefixSum_succ (Nat.lt_of_succ_lt hi)
    have hm := prefixSum_mono durs (Nat.le_of_lt_succ h)
    exact dist_le_of_midpoint (.inl ⟨prefixSum_mono durs (Nat.le_of_lt h), by omega⟩)
  · exact Nat.le_refl _
  · have hs := prefixSum_succ hi
    have hm := prefixSum_mono durs (show i + 1 ≤ j from h)
    exact dist_le_of_midpoint (.inr ⟨prefixSum_mono durs (Nat.le_of_lt h), by omega⟩)

theorem start_le_of_midpoints (i : Nat) (hi : i < durs.length)
    (hbefore : ∀ j, j < i → prefixSum durs j + durAt durs j / 2 < tc) :
    prefixSum durs i ≤ tc + (maxDur durs + 1) / 2 := by
  cases i with
  | zero => rw [prefixSum_zero]; exact Nat.zero_le _
  | succ k =>
    have hb := hbefore k (Nat.lt_succ_self k)
    have hs := prefixSum_succ (Nat.lt_of_succ_lt hi)
    have := durAt_le_maxDur durs k
    omega

theorem gsi_origin_pos_iff (hR : 0 < R) (hn : 0 < durs.length) :
    (getSegmentIndex durs R tc).2.2 > 0 ↔ durs.length ≤ index durs R tc := by
  rw [getSegmentIndex_eq durs R tc hn]
  show 0 < index durs R tc / durs.length * R ↔ _
  rw [Nat.mul_pos_iff_of_pos_right hR, Nat.div_pos_iff]
  exact and_iff_right hn

theorem gsi_of_lt (hn : 0 < durs.length)
    (hin : index durs R tc < durs.length) :
    getSegmentIndex durs R tc = (index durs R tc + 1, prefixSum durs (index durs R tc), 0) := by
  rw [getSegmentIndex_eq durs R tc hn, startG_of_lt R hin, Nat.mod_eq_of_lt hin,
    Nat.div_eq_of_lt hin, Nat.zero_mul]

theorem index_at_start (g : Nat) (hn : 0 < durs.length) (hg : g < durs.length)
    (h1 : StartsInsideLoop durs R) (h2 : PositiveDurs durs) :
    index durs R (prefixSum durs g) = g := by
  have h := index_startG durs R g hn h1 h2
  rwa [startG_of_lt R hg] at h

end

section
variable (durs : List Nat) (R : Nat)

theorem mpsIndex_number (sn tc : Nat) (num : Int) (hR : 0 < R)
    (hn : 0 < durs.length) :
    mpsIndex durs R sn tc (.number num) =
      if durs.length ≤ index durs R tc then .notFound
      else if num < sn then .notFound
      else if (index durs R tc : Int) + 1 + (num - sn) > durs.length then .notFound
      else .ok ((index durs R tc : Int) + 1 + (num - sn)) (-(prefixSum durs (index durs R tc) : Int)) num := by
  unfold mpsIndex
  by_cases hq : durs.length ≤ index durs R tc
  · rw [if_pos hq]
    exact if_pos ((gsi_origin_pos_iff durs R tc hR hn).mpr hq)
  · rw [if_neg hq, gsi_of_lt durs R tc hn (Nat.lt_of_not_le hq)]
    simp only [gt_iff_lt, Nat.lt_irrefl, if_false, Int.natCast_add, Int.natCast_one]

theorem mpsIndex_time (sn tc t : Nat) (hR : 0 < R) (hn : 0 < durs.length) :
    mpsIndex durs R sn tc (.time t) =
      if durs.length ≤ index durs R tc then .notFound
      else if durs.length ≤ index durs R (prefixSum durs (index durs R tc) + t) then .notFound
      else .ok ((index durs R (prefixSum durs (index durs R tc) + t) : Int) + 1)
        (-(prefixSum durs (index durs R tc) : Int))
        ((sn : Int) + (index durs R (prefixSum durs (index durs R tc) + t) : Int) - (index durs R tc : Int)) := by
  unfold mpsIndex
  by_cases hq : durs.length ≤ index durs R tc
  · rw [if_pos hq]
    exact if_pos ((gsi_origin_pos_iff durs R tc hR hn).mpr hq)
  · rw [if_neg hq, gsi_of_lt durs R tc hn (Nat.lt_of_not_le hq)]
    simp only [gt_iff_lt, Nat.lt_irrefl, if_false]
    by_cases hq2 : durs.length ≤ index durs R (prefixSum durs (index durs R tc) + t)
    · rw [if_pos hq2]
      exact if_pos ((gsi_origin_pos_iff durs R _ hR hn).mpr hq2)
    · rw [if_neg hq2, gsi_of_lt durs R _ hn (Nat.lt_of_not_le hq2)]
      simp only [Nat.lt_irrefl, if_false, Int.natCast_add, Int.natCast_one]
      congr 1
      omega

theorem mpsServe_segment (f : Nat → Nat) (k o : Nat) (num : Int)
    (hk : k < durs.length) (ho : o ≤ f k) :
    mpsServe durs (some f) (.ok ((k : Int) + 1) (-(o : Int)) num) = .segment k ((f k : Int) - o) num := by
  have h1 : ¬ ((k : Int) + 1 < 1 ∨ (k : Int) + 1 > durs.length) := by omega
  have h2 : ((k : Int) + 1 - 1).toNat = k := by omega
  have h3 : ¬ ((f k : Int) + -(o : Int) < 0) := by omega
  simp only [mpsServe, h1, h2, h3, if_false]
  rfl

/-- the plain sequence of durations the `while` loop of `generate_period_timeline` walks over -/
def ptRaw (durs : List Nat) (lim : Nat) : Nat → Nat → Nat → List Int
  | 0, _, _ => []
  | f+1, m, pos =>
    if m < durs.length ∧ pos * 1000000 < lim then
      (durAt durs m : Int) :: ptRaw durs lim f (m + 1) (pos + durAt durs m)
    else []

theorem ptLoop_succ (lim f m pos : Nat) (cur : SNode) (acc : List SNode) :
    ptLoop durs lim (f + 1) m pos cur acc =
      if m < durs.length ∧ pos * 1000000 < lim then
        let d : Int := (durAt durs m : Int)
        let p := if cur.dur.isNone then ({ cur with start := some (pos : Int) }, acc)
          else if some d ≠ cur.dur then (SNode.fresh, outputNode acc cur) else (cur, acc)
        ptLoop durs lim f (m + 1) (pos + durAt durs m)
          { p.1 with dur := some d, count := p.1.count + 1 } p.2
      else outputNode acc cur := rfl

/-- the Period loop run-length encodes its raw sequence (as `tlLoop_rle`); the time `t` the list opens at is
read only at the first entry (`cur.dur = none`), where it is `pos` -/
theorem ptLoop_rle (lim : Nat) (t : Int) :
    ∀ fuel m (pos : Nat) (cur : SNode) (acc : List SNode), (cur.dur.isNone = true → t = pos) →
      ptLoop durs lim fuel m pos cur acc = rle t (ptRaw durs lim fuel m pos) cur acc := by
  intro fuel
  induction fuel with
  | zero => intro m pos cur acc _; rfl
  | succ f ih =>
    intro m pos cur acc hc
    rw [ptLoop_succ]
    unfold ptRaw
    by_cases hlt : m < durs.length ∧ pos * 1000000 < lim
    · simp only [if_pos hlt, rle]
      cases h : cur.dur.isNone
      · exact ih _ _ _ _ fun h => by cases h
      · rw [← hc h]; exact ih _ _ _ _ fun h => by cases h
    · simp only [if_neg hlt, rle]

/-- the entry for stored segment `i` (not the `i`-th entry) in the expanded `<S>` list of a Period whose
first segment is `m₀` -/
def ptEntry (durs : List Nat) (m₀ i : Nat) : Int × Int :=
  (((prefixSum durs i - prefixSum durs m₀ : Nat) : Int), (durAt durs i : Int))

/-- the `k` segments from `m` exist and start before the limit (times counted from segment `m₀`),
and they end only at the end of the media or at the limit -/
structure Listed (durs : List Nat) (lim m₀ m k : Nat) : Prop where
  le : m + k ≤ durs.length
  lt_lim : ∀ i, m ≤ i → i < m + k → (prefixSum durs i - prefixSum durs m₀) * 1000000 < lim
  stop : m + k < durs.length → lim ≤ (prefixSum durs (m + k) - prefixSum durs m₀) * 1000000

/-- Counted from stored segment `m₀` the walk keeps `pos = P_m − P_{m₀}`, so with absolute indices
nothing has to be shifted in the induction. -/
theorem ptRaw_spec (lim m₀ : Nat) :
    ∀ fuel m, m₀ ≤ m → m ≤ durs.length → durs.length < m + fuel →
      ∃ k, accumulate ((prefixSum durs m - prefixSum durs m₀ : Nat) : Int)
            (ptRaw durs lim fuel m (prefixSum durs m - prefixSum durs m₀))
          = (List.range' m k).map (ptEntry durs m₀) ∧ Listed durs lim m₀ m k := by
  intro fuel
  induction fuel with
  | zero => intro m _ h1 h2; omega
  | succ f ih =>
    intro m h0 h1 h2
    unfold ptRaw
    by_cases hlt : m < durs.length ∧ (prefixSum durs m - prefixSum durs m₀) * 1000000 < lim
    · obtain ⟨k, e1, e2, e3, e4⟩ := ih (m + 1) (Nat.le_succ_of_le h0) hlt.1 (by omega)
      have hm := prefixSum_mono durs h0
      have e : prefixSum durs m - prefixSum durs m₀ + durAt durs m
          = prefixSum durs (m + 1) - prefixSum durs m₀ := by rw [prefixSum_succ hlt.1]; omega
      rw [Nat.add_right_comm] at e2 e3 e4
      refine ⟨k + 1, ?_, e2, forall_from_succ hlt.2 e3, e4⟩
      rw [if_pos hlt, accumulate, ← Int.natCast_add, e, e1, List.range'_succ, List.map_cons]
      rfl
    · exact ⟨0, by rw [if_neg hlt]; rfl, h1, fun i h3 h4 => absurd h4 (Nat.not_lt.mpr h3),
        fun h => Nat.le_of_not_lt fun h' => hlt ⟨h, h'⟩⟩

/-- **the SegmentTimeline of a Period, expanded**: the source segments `i₀ … i₀ + k − 1`, times
counted from the start of segment `i₀`; it stops only at the end of the media or of the Period -/
theorem periodTimeline_closed (ts tc durUs : Nat) (hn : 0 < durs.length)
    (hin : index durs R tc < durs.length) :
    ∃ k, expand (periodTimeline durs R ts tc durUs)
        = (List.range' (index durs R tc) k).map (ptEntry durs (index durs R tc)) ∧
      Listed durs (durUs * ts) (index durs R tc) (index durs R tc) k := by
  have h := ptRaw_spec durs (durUs * ts) (index durs R tc) (durs.length + 1) (index durs R tc)
    (Nat.le_refl _) (Nat.le_of_lt hin) (by omega)
  rw [Nat.sub_self] at h
  unfold periodTimeline
  rw [gsi_of_lt durs R tc hn hin]
  simp only [gt_iff_lt, Nat.lt_irrefl, if_false, Nat.add_sub_cancel]
  rw [ptLoop_rle durs _ _ _ _ 0 _ _ fun _ => rfl, expand_rle]
  exact h

end

theorem quantise_near (us : Nat) : us ≤ quantise us + 499 ∧ quantise us ≤ us + 500 := by
  unfold quantise; omega

theorem presented_durations_dvd (ps : List PeriodDef) :
    ∀ d, d ∈ durations (presented ps) → 1000 ∣ d := by
  intro d hd
  unfold durations presented at hd
  simp only [List.map_map, List.mem_map, Function.comp] at hd
  obtain ⟨p, _, rfl⟩ := hd
  exact Nat.dvd_mul_left 1000 _

theorem sum_dvd (l : List Nat) (k : Nat) (h : ∀ d, d ∈ l → k ∣ d) : k ∣ l.sum := by
  induction l with
  | nil => simp
  | cons a l ih =>
    rw [List.sum_cons]
    exact Nat.dvd_add (h a (by simp)) (ih fun d hd => h d (by simp [hd]))

theorem prefixSum_dvd (l : List Nat) (k i : Nat) (h : ∀ d, d ∈ l → k ∣ d) : k ∣ prefixSum l i := by
  unfold prefixSum
  exact sum_dvd _ k fun d hd => h d (List.mem_of_mem_take hd)

theorem startG_dvd (l : List Nat) (k g : Nat) (h : ∀ d, d ∈ l → k ∣ d) : k ∣ startG l l.sum g := by
  unfold startG
  exact Nat.dvd_add (Nat.dvd_mul_left_of_dvd (sum_dvd l k h) _) (prefixSum_dvd l k _ h)

end DashLive.Periods
