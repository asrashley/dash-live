import DashLive.Model.InitRewrite
import DashLive.Lemmas.PlayReady
/-!
Lemmas about `Model/InitRewrite.lean` for C10: what `hooksOf` / `psshFor` give per system, `serveAll`
leaving the shared state alone, the edit at the first box of a type (`modifyFirst` / `removeFirst`,
every fact through `split_first`), and `parse_encodeList`: the reader `parseBoxes` recovers every
well-formed tree (`WfList`) from its encoding.
-/
namespace DashLive.InitRewrite
open DashLive.PlayReady (Bytes Loc be32 be32val be32_length be32_frame_length be32_frame_read)

theorem Sys.mem_all (s : Sys) : s ∈ Sys.all := by cases s <;> simp [Sys.all]

theorem Loc.mem_all (l : Loc) : l ∈ Loc.all := by cases l <;> simp [Loc.all]

theorem hooksOf_moov (version : Option Nat) (aes : Bool) (n : Nat) (s : Sys) (locs : List Loc) :
    (hooksOf version aes n s locs).moov = (s != .marlin && locs.contains .moov) := by
  cases s <;> rfl

theorem psshFor_playready (kids : List Bytes) (pro : Bytes) :
    psshFor kids pro .playready = some (if kids.length < 2 then ⟨0, PlayReady.playreadySystemId, [], pro⟩
      else ⟨1, PlayReady.playreadySystemId, kids, pro⟩) := by
  simp only [psshFor]; split <;> rfl

theorem serve_state (s : Shared) (q : Req) : (serve s q).2 = s := by cases q <;> rfl

theorem serveAll_state (s : Shared) (l : List Req) : (serveAll s l).2 = s := by
  induction l with
  | nil => rfl
  | cons q qs ih => simp only [serveAll, serve_state, ih]

theorem serveAll_append (s : Shared) (l l' : List Req) :
    (serveAll s (l ++ l')).1 = (serveAll s l).1 ++ (serveAll s l').1 := by
  induction l with
  | nil => rfl
  | cons q qs ih => simp only [List.cons_append, serveAll, serve_state, ih]

theorem encodeList_append (a b : List Box) : encodeList (a ++ b) = encodeList a ++ encodeList b := by
  induction a with
  | nil => rfl
  | cons x xs ih => rw [List.cons_append, encodeList, encodeList, ih, List.append_assoc]

theorem encodeList_length_append (a b : List Box) :
    (encodeList (a ++ b)).length = (encodeList a).length + (encodeList b).length := by
  rw [encodeList_append, List.length_append]

/-! `modifyFirst` and `removeFirst` are determined by what they do on a list without a box of the
type (`_none`) and on a list split at the first such box (`_split`); by `split_first` there is no
third case, so every other fact about them is a case split over it. -/

theorem modifyFirst_split (t : Bytes) (f : Box → Box) (pre post : List Box) (b : Box)
    (hpre : ∀ x ∈ pre, x.typ ≠ t) (hb : b.typ = t) :
    modifyFirst t f (pre ++ b :: post) = pre ++ f b :: post := by
  induction pre with
  | nil => simp [modifyFirst, hb]
  | cons x xs ih =>
    simp only [List.cons_append, modifyFirst, hpre x (List.mem_cons_self ..), if_false,
      ih fun y hy => hpre y (List.mem_cons_of_mem _ hy)]

theorem modifyFirst_none (t : Bytes) (f : Box → Box) (l : List Box) (h : ∀ x ∈ l, x.typ ≠ t) :
    modifyFirst t f l = l := by
  induction l with
  | nil => rfl
  | cons x xs ih =>
    simp only [modifyFirst, h x (List.mem_cons_self ..), if_false,
      ih fun y hy => h y (List.mem_cons_of_mem _ hy)]

theorem removeFirst_split (t : Bytes) (pre post : List Box) (b : Box)
    (hpre : ∀ x ∈ pre, x.typ ≠ t) (hb : b.typ = t) :
    removeFirst t (pre ++ b :: post) = pre ++ post := by
  induction pre with
  | nil => simp [removeFirst, hb]
  | cons x xs ih =>
    simp only [List.cons_append, removeFirst, hpre x (List.mem_cons_self ..), if_false,
      ih fun y hy => hpre y (List.mem_cons_of_mem _ hy)]

theorem removeFirst_none (t : Bytes) (l : List Box) (h : ∀ x ∈ l, x.typ ≠ t) :
    removeFirst t l = l := by
  induction l with
  | nil => rfl
  | cons x xs ih =>
    simp only [removeFirst, h x (List.mem_cons_self ..), if_false,
      ih fun y hy => h y (List.mem_cons_of_mem _ hy)]

theorem split_first (t : Bytes) (l : List Box) :
    (∀ x ∈ l, x.typ ≠ t) ∨
    ∃ pre b post, l = pre ++ b :: post ∧ (∀ x ∈ pre, x.typ ≠ t) ∧ b.typ = t := by
  induction l with
  | nil => exact .inl nofun
  | cons x xs ih =>
    by_cases hx : x.typ = t
    · exact .inr ⟨[], x, xs, rfl, nofun, hx⟩
    · rcases ih with h | ⟨pre, b, post, rfl, hpre, hb⟩
      · exact .inl (List.forall_mem_cons.mpr ⟨hx, h⟩)
      · exact .inr ⟨x :: pre, b, post, rfl, List.forall_mem_cons.mpr ⟨hx, hpre⟩, hb⟩

theorem modifyFirst_append_right (t : Bytes) (f : Box → Box) (l extra : List Box)
    (h : ∀ x ∈ extra, x.typ ≠ t) :
    modifyFirst t f (l ++ extra) = modifyFirst t f l ++ extra := by
  rcases split_first t l with hn | ⟨pre, b, post, rfl, hpre, hb⟩
  · rw [modifyFirst_none t f l hn, modifyFirst_none]
    exact fun x hx => (List.mem_append.mp hx).elim (hn x) (h x)
  · rw [List.append_assoc, List.cons_append, modifyFirst_split t f pre _ b hpre hb,
      modifyFirst_split t f pre _ b hpre hb, List.append_assoc, List.cons_append]

theorem modifyFirst_id (t : Bytes) (f : Box → Box) (l : List Box) (hf : ∀ b ∈ l, f b = b) :
    modifyFirst t f l = l := by
  rcases split_first t l with hn | ⟨pre, b, post, rfl, hpre, hb⟩
  · exact modifyFirst_none t f l hn
  · rw [modifyFirst_split t f pre post b hpre hb, hf b (by simp)]

theorem encodeList_removeFirst_le (t : Bytes) (l : List Box) :
    (encodeList (removeFirst t l)).length ≤ (encodeList l).length := by
  rcases split_first t l with hn | ⟨pre, b, post, rfl, hpre, hb⟩
  · rw [removeFirst_none t l hn]; exact Nat.le_refl _
  · rw [removeFirst_split t pre post b hpre hb]
    simp only [encodeList_length_append, encodeList, List.length_append]; omega

theorem encodeList_modifyFirst_le (t : Bytes) (f : Box → Box) (l : List Box)
    (hf : ∀ b, (f b).encode.length ≤ b.encode.length) :
    (encodeList (modifyFirst t f l)).length ≤ (encodeList l).length := by
  rcases split_first t l with hn | ⟨pre, b, post, rfl, hpre, hb⟩
  · rw [modifyFirst_none t f l hn]; exact Nat.le_refl _
  · rw [modifyFirst_split t f pre post b hpre hb]
    have := hf b
    simp only [encodeList_length_append, encodeList, List.length_append]; omega

theorem typ_dropMehdFrom (b : Box) : (dropMehdFrom b).typ = b.typ := by
  cases b <;> rfl

theorem encode_dropMehdFrom_le (b : Box) : (dropMehdFrom b).encode.length ≤ b.encode.length := by
  cases b with
  | leaf t p => exact Nat.le_refl _
  | node t cs =>
    have := encodeList_removeFirst_le mehdType cs
    simp only [dropMehdFrom, Box.encode, List.length_append, be32_length]; omega

mutual
/-- number of boxes in a tree: any fuel above it lets `parseBoxes` finish (`parse_encodeList`) -/
def Box.weight : Box → Nat
  | .leaf _ _ => 1
  | .node _ cs => 1 + weightList cs
def weightList : List Box → Nat
  | [] => 0
  | b :: bs => b.weight + weightList bs
end

mutual
/-- a tree the reader can recover: 4-byte types, containers exactly where `isC` says,
every size below 2³² -/
def Box.Wf (isC : Bytes → Bool) : Box → Prop
  | .leaf t p => t.length = 4 ∧ isC t = false ∧ 8 + p.length < 4294967296
  | .node t cs => t.length = 4 ∧ isC t = true ∧ 8 + (encodeList cs).length < 4294967296 ∧ WfList isC cs
def WfList (isC : Bytes → Bool) : List Box → Prop
  | [] => True
  | b :: bs => b.Wf isC ∧ WfList isC bs
end

theorem parse_step (isC : Bytes → Bool) (fuel : Nat) (t payload rest : Bytes)
    (ht : t.length = 4) (hsz : 8 + payload.length < 4294967296) :
    parseBoxes isC (fuel + 1) (be32 (8 + payload.length) ++ t ++ payload ++ rest)
      = match parseBoxes isC fuel rest with
        | none => none
        | some r =>
          if isC t then
            match parseBoxes isC fuel payload with
            | none => none
            | some cs => some (.node t cs :: r)
          else some (.leaf t payload :: r) := by
  generalize hbs : be32 (8 + payload.length) ++ t ++ payload ++ rest = bs
  have hbs' : bs = be32 (8 + payload.length) ++ (t ++ (payload ++ rest)) := by
    rw [← hbs, List.append_assoc, List.append_assoc]
  have hlen := be32_frame_length hbs' ht
  obtain ⟨hv, t4, d8⟩ := be32_frame_read hbs' ht hsz
  rw [List.length_append] at hlen
  have dS : bs.drop (8 + payload.length) = rest := by rw [← List.drop_drop, d8, List.drop_left' rfl]
  -- the equation of `parseBoxes` for a non-empty input only fires on a `cons`
  cases bs with
  | nil => rw [List.length_nil] at hlen; omega
  | cons x xs =>
    have h1 : ¬ 8 + (payload.length + rest.length) < 8 := by omega
    have h2 : ¬ (8 + payload.length < 8 ∨ 8 + payload.length > 8 + (payload.length + rest.length)) := by
      omega
    rw [parseBoxes]
    · simp only [hlen, hv, t4, d8, dS, h1, if_false, Bool.or_eq_true, decide_eq_true_eq, h2,
        Nat.add_sub_cancel_left, List.take_left' rfl]
      rfl
    · nofun

theorem weightList_append (a b : List Box) : weightList (a ++ b) = weightList a + weightList b := by
  induction a with
  | nil => simp [weightList]
  | cons x xs ih => simp [weightList, ih]; omega

theorem wfList_append (isC : Bytes → Bool) (a b : List Box) :
    WfList isC (a ++ b) ↔ WfList isC a ∧ WfList isC b := by
  induction a with
  | nil => simp [WfList]
  | cons x xs ih => simp [WfList, ih, and_assoc]

theorem parse_encodeList (isC : Bytes → Bool) (bs : List Box) (fuel : Nat) (hw : WfList isC bs)
    (hf : weightList bs < fuel) : parseBoxes isC fuel (encodeList bs) = some bs := by
  induction fuel generalizing bs with
  | zero => omega
  | succ n ih =>
    match bs, hw, hf with
    | [], _, _ => rfl
    | .leaf t p :: rest, ⟨⟨ht, hc, hsz⟩, hrest⟩, hf =>
      simp only [weightList, Box.weight] at hf
      rw [encodeList, Box.encode, parse_step isC n t p _ ht hsz, ih rest hrest (by omega)]
      simp only [hc, Bool.false_eq_true, if_false]
    | .node t cs :: rest, ⟨⟨ht, hc, hsz, hcs⟩, hrest⟩, hf =>
      simp only [weightList, Box.weight] at hf
      rw [encodeList, Box.encode, parse_step isC n t _ _ ht hsz, ih rest hrest (by omega),
        ih cs hcs (by omega)]
      simp only [hc, if_true]

theorem wfList_removeFirst (isC : Bytes → Bool) (t : Bytes) (l : List Box) (h : WfList isC l) :
    WfList isC (removeFirst t l) := by
  rcases split_first t l with hn | ⟨pre, b, post, rfl, hpre, hb⟩
  · rwa [removeFirst_none t l hn]
  · rw [removeFirst_split t pre post b hpre hb]
    rw [wfList_append] at h ⊢
    obtain ⟨hwpre, -, hwpost⟩ := h
    exact ⟨hwpre, hwpost⟩

theorem wfList_modifyFirst (isC : Bytes → Bool) (t : Bytes) (f : Box → Box) (l : List Box)
    (hf : ∀ b, b.Wf isC → (f b).Wf isC) (h : WfList isC l) : WfList isC (modifyFirst t f l) := by
  rcases split_first t l with hn | ⟨pre, b, post, rfl, hpre, hb⟩
  · rwa [modifyFirst_none t f l hn]
  · rw [modifyFirst_split t f pre post b hpre hb]
    rw [wfList_append] at h ⊢
    obtain ⟨hwpre, hwb, hwpost⟩ := h
    exact ⟨hwpre, hf b hwb, hwpost⟩

theorem wf_dropMehdFrom (isC : Bytes → Bool) (b : Box) (h : b.Wf isC) : (dropMehdFrom b).Wf isC := by
  cases b with
  | leaf t p => exact h
  | node t cs =>
    obtain ⟨ht, hc, hsz, hcs⟩ := h
    have := encodeList_removeFirst_le mehdType cs
    exact ⟨ht, hc, by omega, wfList_removeFirst isC _ _ hcs⟩

end DashLive.InitRewrite
