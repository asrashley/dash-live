import DashLive.Lemmas.Avail
import DashLive.Lemmas.Timeline
/-! For C09: how the listed window of a live timeline depends on the clock.  `startG` is strictly
monotone, so overlapping entries are one position (`eq_of_overlap`) and the number of entries listed is
fixed by where the window ends (`rawLoop_window`). -/
namespace DashLive.Segments

theorem AdvPositive.strictMono {durs : List Nat} {R : Nat} (hpos : AdvPositive durs R)
    (hn : 0 < durs.length) : StrictMono (startG durs R) :=
  strictMono_nat_of_lt_succ fun g => by
    have := startG_succ durs R g hn
    have := advPositive_durG' hn hpos g
    omega

/-- positions whose advertised intervals `[startG g, startG g + durG' g)` overlap coincide -/
theorem eq_of_overlap (durs : List Nat) (R : Nat) (hn : 0 < durs.length)
    (hpos : AdvPositive durs R) {g g' : Nat}
    (h1 : (startG durs R g : Int) < startG durs R g' + durG' durs R g')
    (h2 : (startG durs R g' : Int) < startG durs R g + durG' durs R g) : g = g' := by
  rw [← startG_succ durs R _ hn, Int.ofNat_lt, (hpos.strictMono hn).lt_iff_lt] at h1 h2
  omega

theorem sum_durG' (durs : List Nat) (R : Nat) (hn : 0 < durs.length) (g k : Nat) :
    ((List.range k).map (fun i => durG' durs R (g + i))).sum
      = (startG durs R (g + k) : Int) - startG durs R g := by
  induction k with
  | zero => simp
  | succ k ih =>
    rw [List.range_succ, List.map_append, List.sum_append, ih, ← Nat.add_assoc,
      startG_succ durs R (g + k) hn]
    simp only [List.map_cons, List.map_nil, List.sum_cons, List.sum_nil]
    omega

/-- with enough fuel the generator, started at position `g` with a window of `B` ticks, lists the
positions up to the first one that starts `B` ticks or more after `g` -/
theorem rawLoop_window (durs : List Nat) (R : Nat) (hn : 0 < durs.length) (hpos : AdvPositive durs R)
    (B fuel g : Nat) (hf : B ≤ fuel) :
    let k := (rawLoop durs ((R : Int) - (durs.sum : Int)) (B : Int) fuel 0 (g % durs.length)).length
    startG durs R g + B ≤ startG durs R (g + k) ∧
      ∀ q, startG durs R g + B ≤ startG durs R q → g + k ≤ q := by
  have hmono := hpos.strictMono hn
  -- the raw loop lists the advertised durations of the positions from `g`
  have hd := congrArg (List.map (·.2)) (rawLoop_slice durs R B hn fuel 0 g)
  simp only [accumulate_snd, sliceG_eq_map, List.map_map, Function.comp_def] at hd
  have hc := rawLoop_covers durs _ B hpos fuel 0 _ (Nat.mod_lt g hn) (by omega)
  have hm := rawLoop_minimal durs ((R : Int) - (durs.sum : Int)) B fuel 0 (g % durs.length)
  generalize rawLoop durs ((R : Int) - (durs.sum : Int)) (B : Int) fuel 0 (g % durs.length) = raw at *
  generalize raw.length = k at hd
  subst hd
  -- `hc`: `B ≤ startG (g+k) − startG g`;  `hm`: `k ≠ 0 → startG (g+(k−1)) − startG g < B`
  simp only [List.dropLast_eq_take, ← List.map_take, List.take_range, List.length_map, List.length_range,
    sum_durG' durs R hn, Nat.min_eq_left (Nat.sub_le _ _), ne_eq, List.map_eq_nil_iff,
    List.range_eq_nil] at hc hm ⊢
  refine ⟨by omega, fun q hq => ?_⟩
  by_cases hk : k = 0
  · have := hmono.le_iff_le.mp (Nat.le_of_add_right_le hq)
    omega
  · have := hm hk
    have : g + (k - 1) < q := hmono.lt_iff_lt.mp (by omega)
    omega

end DashLive.Segments
