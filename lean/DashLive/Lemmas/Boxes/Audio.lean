import DashLive.Model.Boxes.Audio
import DashLive.Lemmas.Boxes.Basic
/-! Round trip of `dec3` (`Model/Boxes/Audio.lean`). -/
namespace DashLive.Boxes
open DashLive.Bytes

theorem ec3Word_fields (a b c d e n h : Nat) (ha : a < 4) (hb : b < 32) (hc : c < 32) (hd : d < 8)
    (he : e < 2) (hn : n < 16) (hh : h < 2) :
    let w := a * 4194304 + b * 131072 + c * 4096 + d * 512 + e * 256 + n * 2 + h
    w < 16777216 ∧ w / 4194304 = a ∧ w / 131072 % 32 = b ∧ w / 4096 % 32 = c ∧ w / 512 % 8 = d ∧
    w / 256 % 2 = e ∧ w / 2 % 16 = n ∧ w % 2 = h := by
  intro w
  -- the fields are the digits of `w` in mixed radix (the 3 reserved bits are a zero digit), and
  -- `w / (N₁ * … * Nₖ) = w / N₁ / … / Nₖ` drops the last `k` digits one by one
  have hw : w = ((((((a * 32 + b) * 32 + c) * 8 + d) * 2 + e) * 8 + 0) * 16 + n) * 2 + h := by
    simp only [w, Nat.add_mul, Nat.mul_assoc, Nat.reduceMul, Nat.add_zero]
  have h0 : 0 < 8 := by decide
  have key : w / (2 * 16 * 8 * 2 * 8 * 32 * 32) = a ∧ w / (2 * 16 * 8 * 2 * 8 * 32) % 32 = b ∧
      w / (2 * 16 * 8 * 2 * 8) % 32 = c ∧ w / (2 * 16 * 8 * 2) % 8 = d ∧ w / (2 * 16 * 8) % 2 = e ∧
      w / 2 % 16 = n ∧ w % 2 = h := by
    simp only [← Nat.div_div_eq_div_mul, hw, field_div, field_mod, hb, hc, hd, he, hn, hh, h0, and_self]
  exact ⟨(Nat.div_lt_iff_lt_mul (by decide)).1 (key.1.symm ▸ ha), key⟩

theorem decEc3Sub_encEc3Sub (s : Ec3Sub) (rest : Bytes) (h : s.Wf) :
    decEc3Sub (encEc3Sub s ++ rest) = some (s, rest) := by
  obtain ⟨fscod, bsid, bsmod, acmod, lfeon, nds, cl⟩ := s
  obtain ⟨h1, h2, h3, h4, h5, h6, h7, h8⟩ := h
  simp only at h1 h2 h3 h4 h5 h6 h7 h8
  have hh : cl / 256 < 2 := Nat.div_lt_of_lt_mul h7
  obtain ⟨w0, w1, w2, w3, w4, w5, w6, w7⟩ :=
    ec3Word_fields fscod bsid bsmod acmod lfeon nds (cl / 256) h1 h2 h3 h4 h5 h6 hh
  by_cases hn : nds = 0
  · have hcl : cl = 0 := h8 hn
    subst hn; subst hcl
    simp only [decEc3Sub, encEc3Sub, ec3Word, if_true, List.append_nil, u24.dec_enc w0,
      andThen_some, w6, w1, w2, w3, w4, w5]
  · simp only [decEc3Sub, encEc3Sub, ec3Word, hn, if_false, List.append_assoc,
      u24.dec_enc w0, andThen_some, w6, w1, w2, w3, w4, w5, w7,
      u8.dec_enc (Nat.mod_lt cl (by decide : 0 < 256)), Nat.div_add_mod']

theorem decDec3Ext_encDec3Ext (e : Option (Nat × Nat))
    (h : match e with | none => True | some (f, c) => f < 2 ∧ c < 256) :
    decDec3Ext (encDec3Ext e) = some e := by
  cases e with
  | none => simp [decDec3Ext, encDec3Ext]
  | some p =>
    obtain ⟨f, c⟩ := p
    simp only at h
    have hv : f * 256 + c < 65536 := by omega
    have hne : (encU16 (f * 256 + c)).isEmpty = false :=
      List.isEmpty_eq_false_iff.2 (List.ne_nil_of_length_pos (by simp))
    have hd := u16.dec_enc hv []
    rw [List.append_nil] at hd
    simp only [decDec3Ext, encDec3Ext, hne, Bool.false_eq_true, if_false, hd, field_div 256 f c h.2,
      field_mod 256 f c h.2, Nat.mod_eq_of_lt h.1]

theorem decDec3_encDec3 (x : Dec3) (h : x.Wf) : decDec3 (encDec3 x) = some x := by
  obtain ⟨h1, h2, h3, h4, h5⟩ := h
  have hw : x.data_rate * 8 + (x.substreams.length - 1) < 65536 := by omega
  have hl : x.substreams.length - 1 < 8 := by omega
  have hm := decMany_encMany encEc3Sub decEc3Sub x.substreams (encDec3Ext x.ext)
    (fun a ha r => decEc3Sub_encEc3Sub a r (h4 a ha))
  simp only [decDec3, encDec3, u16.dec_enc hw, andThen_some, field_mod 8 _ _ hl,
    Nat.sub_add_cancel h2, hm, decDec3Ext_encDec3Ext x.ext h5, field_div 8 _ _ hl]

end DashLive.Boxes
