import DashLive.Model.Boxes.Cenc
import DashLive.Lemmas.Boxes.Basic
/-! Codec laws of `senc` (parse ∘ encode, given its context) and `pssh` (`Model/Boxes/Cenc.lean`). -/
namespace DashLive.Boxes
open DashLive.Bytes

theorem SubSample.codec : Codec SubSample.Wf encSubSample decSubSample :=
  .mk (fun s rest ⟨h1, h2⟩ => by
      simp only [decSubSample, encSubSample, List.append_assoc, u16.dec_enc h1, u32.dec_enc h2,
        andThen_some])
    (u16.bind fun c h1 => u32.bind fun e h2 => Codec.ret fun r =>
      ⟨⟨h1, h2⟩, by simp only [encSubSample, List.append_assoc]⟩)

theorem decSubSample_spec {bs : Bytes} {s : SubSample} {rest : Bytes}
    (h : decSubSample bs = some (s, rest)) : s.Wf ∧ encSubSample s ++ rest = bs :=
  SubSample.codec.spec h

theorem decSubs_encSubs (w : Bool) (ivSize size : Nat) (s : SencSample) (rest : Bytes)
    (h : sencSampleOk w ivSize size s) :
    decSubs w ivSize size (encSubs w s.subsamples ++ rest) = some (s.subsamples, rest) := by
  obtain ⟨_, _, hw, hc⟩ := h
  generalize s.subsamples = subs at hw hc ⊢
  -- `hc` ties the `saiz` size to the layout written: `decSubs` takes the branch `encSubs` took
  cases w with
  | false =>
    simp only [Bool.false_eq_true, if_false] at hc
    subst hc
    simp [decSubs, encSubs]
  | true =>
    simp only [if_true] at hc
    cases subs with
    | nil =>
      simp only [List.isEmpty_nil, if_true] at hc
      have : ¬ (ivSize + 2 ≤ size) := by omega
      simp [decSubs, encSubs, this]
    | cons u us =>
      simp only [List.isEmpty_cons, Bool.false_eq_true, if_false] at hc
      obtain ⟨h1, h2, h3⟩ := hc
      have h4 : ¬ (size < (u :: us).length * 6) := by omega
      simp only [decSubs, encSubs, Bool.true_and, decide_eq_true_eq, h1, if_true,
        List.isEmpty_cons, Bool.not_false, List.append_assoc, u16.dec_enc h2,
        andThen_some, h4, if_false, (SubSample.codec.many _).dec_enc ⟨rfl, hw⟩]

theorem decSencSample_encSencSample (w : Bool) (ivSize size : Nat) (s : SencSample) (rest : Bytes)
    (h : sencSampleOk w ivSize size s) :
    decSencSample w ivSize size (encSencSample w s ++ rest) = some (s, rest) := by
  simp only [decSencSample, encSencSample, List.append_assoc, (take ivSize).dec_enc h.1,
    andThen_some, decSubs_encSubs w ivSize size s rest h]

theorem decSencSamples_encMany (w : Bool) (ivSize : Nat) (c : SencCtx) (l : List SencSample)
    (i : Nat) (rest : Bytes) (h : sencSamplesOk w ivSize c i l) :
    decSencSamples w ivSize c l.length i (encMany (encSencSample w) l ++ rest) = some (l, rest) := by
  induction l generalizing i with
  | nil => simp [decSencSamples, encMany]
  | cons s ss ih =>
    obtain ⟨h1, h2⟩ := h
    cases hsz : c.sizeAt i with
    | none => simp [hsz] at h1
    | some size =>
      simp only [hsz] at h1
      have hne : size ≠ 0 := h1.2.1
      simp only [List.length_cons, decSencSamples, hsz, hne, if_false, encMany, List.append_assoc,
        decSencSample_encSencSample w ivSize size s _ h1, andThen_some, ih (i+1) h2]

theorem sencSamplesOk_false_any (iv : Nat) (c : SencCtx) (l : List SencSample) (i : Nat)
    (h : sencSamplesOk false iv c i l) : l.any (fun s => !s.subsamples.isEmpty) = false := by
  induction l generalizing i with
  | nil => rfl
  | cons s ss ih =>
    obtain ⟨h1, h2⟩ := h
    cases hsz : c.sizeAt i with
    | none => simp [hsz] at h1
    | some size =>
      simp only [hsz] at h1
      have : s.subsamples = [] := by simpa using h1.2.2.2
      simp [this, ih (i + 1) h2]

theorem sencFlags_of_wf (c : SencCtx) (x : Senc) (h : x.Wf c) : sencFlags x = x.flags := by
  obtain ⟨_, _, _, _, hs⟩ := h
  unfold sencFlags
  cases hb : hasBit x.flags 1 with
  | true => simp
  | false => simp [sencSamplesOk_false_any _ c _ 0 (hb ▸ hs)]

theorem decSencTail_encSencTail (w : Bool) (iv : Nat) (c : SencCtx) (l : List SencSample)
    (rest : Bytes) (hl : l.length < 4294967296) (hiv : iv = 8 ∨ iv = 16)
    (h : sencSamplesOk w iv c 0 l) :
    decSencTail w iv c (encSencTail w l ++ rest) = some (l, rest) := by
  have hn : ¬ (iv ≠ 8 ∧ iv ≠ 16) := by omega
  simp only [decSencTail, encSencTail, List.append_assoc, u32.dec_enc hl, andThen_some, hn,
    if_false, decSencSamples_encMany w iv c l 0 rest h]

theorem decSenc'_encSenc (c : SencCtx) (x : Senc) (rest : Bytes) (h : x.Wf c) :
    decSenc' c (encSenc x ++ rest) = some (x, rest) := by
  have hf := sencFlags_of_wf c x h
  obtain ⟨h1, h2, h3, h4, h5⟩ := h
  unfold encSenc
  rw [hf]
  cases hb : hasBit x.flags 0 with
  | true =>
    simp only [hb, if_true] at h4
    obtain ⟨h4a, h4b, h4c⟩ := h4
    have hiv : x.iv_size < 256 := by omega
    have hiv0 : ¬ x.iv_size = 0 := by omega
    simp only [decSenc', encSencWith, List.append_assoc, u8.dec_enc h1, u24.dec_enc h2,
      andThen_some, decSencBody, hb, if_true, encSencOverride, u24.dec_enc h4a,
      u8.dec_enc hiv, (take 16).dec_enc h4c, hiv0, if_false,
      decSencTail_encSencTail _ _ c _ rest h3 h4b h5]
  | false =>
    obtain ⟨v, f, alg, iv, kid, samples⟩ := x
    simp only [hb, Bool.false_eq_true, if_false] at h4
    obtain ⟨rfl, rfl, h4c, rfl⟩ := h4
    simp only [decSenc', encSencWith, List.append_assoc, u8.dec_enc h1, u24.dec_enc h2,
      andThen_some, decSencBody, hb, Bool.false_eq_true, if_false, encSencOverride,
      List.nil_append, decSencTail_encSencTail _ _ c _ rest h3 h4c h5]

theorem decSenc_encSenc (c : SencCtx) (x : Senc) (h : x.Wf c) :
    decSenc c (encSenc x) = some x :=
  exact_of_prefix (d := decSenc' c) (decSenc'_encSenc c x [] h)

theorem psshKids (p : Bool) :
    Codec (fun kids => (p = false → kids = []) ∧ kids.length < 4294967296 ∧ ∀ k ∈ kids, k.length = 16)
      (encPsshKids p) (decPsshKids p) := by
  cases p with
  | false =>
    exact .mk (fun kids rest h => by simp [decPsshKids, encPsshKids, h.1 rfl])
      fun bs y h => by cases h; exact ⟨⟨fun _ => rfl, (by decide : 0 < 4294967296), nofun⟩, rfl⟩
  | true =>
    refine .mk (fun kids rest ⟨_, h2, h3⟩ => ?_) ?_
    · simp only [decPsshKids, encPsshKids, if_true, List.append_assoc, u32.dec_enc h2,
        andThen_some, (takes 16 _).dec_enc ⟨rfl, h3⟩]
    · simp only [decPsshKids, if_true]
      exact u32.bind fun n h1 r y hy => by
        obtain ⟨⟨ha, hb⟩, rfl⟩ := (takes 16 n).spec hy
        exact ⟨⟨nofun, ha ▸ h1, hb⟩, by simp only [encPsshKids, if_true, ha, List.append_assoc]⟩

theorem Pssh.codec : Codec Pssh.Wf encPssh decPssh' :=
  .mk (fun x rest ⟨h1, h2, h3, h4, h5, h6, h7⟩ => by
      simp only [decPssh', encPssh, List.append_assoc, u8.dec_enc h1, u24.dec_enc h2,
        (take 16).dec_enc h3, u32.dec_enc h7, (take _).dec_enc rfl, andThen_some,
        (psshKids (decide (0 < x.version))).dec_enc ⟨fun hv => h4 (by simpa using hv), h5, h6⟩])
    (u8.bind fun v h1 => u24.bind fun f h2 => (take 16).bind fun sys h3 => (psshKids _).bind fun kids h4 =>
      u32.bind fun dl h5 => (take dl).bind fun data h6 => Codec.ret fun r =>
      ⟨⟨h1, h2, h3, fun hv => h4.1 (by simp [show v = 0 from hv]), h4.2.1, h4.2.2, h6 ▸ h5⟩,
        by simp only [encPssh, List.append_assoc, show data.length = dl from h6]⟩)

end DashLive.Boxes
