import DashLive.Model.Boxes.Index
import DashLive.Lemmas.Boxes.Basic
/-! Codec laws of `sidx` and `emsg` (`Model/Boxes/Index.lean`). -/
namespace DashLive.Boxes
open DashLive.Bytes

theorem pack1_3_28 (s t d : Nat) (h1 : s < 2) (h2 : t < 8) (h3 : d < 268435456) :
    s * 2147483648 + t * 268435456 + d < 4294967296 ∧
    (s * 2147483648 + t * 268435456 + d) / 2147483648 = s ∧
    (s * 2147483648 + t * 268435456 + d) / 268435456 % 8 = t ∧
    (s * 2147483648 + t * 268435456 + d) % 268435456 = d := by
  -- the fields as digits: 28 bits below 3 bits below 1 bit
  have hw : s * 2147483648 + t * 268435456 + d = (s * 8 + t) * 268435456 + d := by
    simp only [Nat.add_mul, Nat.mul_assoc, Nat.reduceMul]
  have key : (s * 2147483648 + t * 268435456 + d) / (268435456 * 8) = s ∧
      (s * 2147483648 + t * 268435456 + d) / 268435456 % 8 = t ∧
      (s * 2147483648 + t * 268435456 + d) % 268435456 = d := by
    simp only [← Nat.div_div_eq_div_mul, hw, field_div, field_mod, h2, h3, and_self]
  exact ⟨(Nat.div_lt_iff_lt_mul (by decide)).1 (key.1.symm ▸ h1), key⟩

theorem unpack1_3_28 (c : Nat) (h : c < 4294967296) :
    c / 2147483648 < 2 ∧ c / 268435456 % 8 < 8 ∧ c % 268435456 < 268435456 ∧
    c / 2147483648 * 2147483648 + c / 268435456 % 8 * 268435456 + c % 268435456 = c := by
  refine ⟨Nat.div_lt_of_lt_mul h, Nat.mod_lt _ (by decide), Nat.mod_lt _ (by decide), ?_⟩
  rw [show 2147483648 = 268435456 * 8 from rfl, ← Nat.div_div_eq_div_mul, Nat.mul_comm 268435456 8,
    ← Nat.mul_assoc, ← Nat.add_mul, Nat.div_add_mod', Nat.div_add_mod']

theorem SidxRef.codec : Codec SidxRef.Wf encSidxRef decSidxRef :=
  .mk (fun ⟨rt, rs, d, s, t, dt⟩ rest ⟨h1, h2, h3, h4, h5, h6⟩ => by
      obtain ⟨hc, e3, e4, e5⟩ := pack1_3_28 s t dt h4 h5 h6
      simp only [decSidxRef, encSidxRef, List.append_assoc, u32.dec_enc (pack_lt h1 h2),
        u32.dec_enc h3, u32.dec_enc hc, andThen_some, field_div _ rt rs h2, field_mod _ rt rs h2,
        e3, e4, e5])
    (u32.bind fun a h1 => u32.bind fun d h2 => u32.bind fun c h3 => Codec.ret fun r => by
      obtain ⟨c1, c2, c3, c4⟩ := unpack1_3_28 c h3
      exact ⟨⟨Nat.div_lt_of_lt_mul h1, Nat.mod_lt _ (by decide), h2, c1, c2, c3⟩,
        by simp only [encSidxRef, List.append_assoc, Nat.div_add_mod', c4]⟩)

theorem decSidxR'_encSidx (x : Sidx) (rest : Bytes) (h : x.Wf) :
    decSidxR' (encSidx x ++ rest) = some ((x, 0), rest) := by
  obtain ⟨h1, h2, h3, h4, h5, h6, h7, h8⟩ := h
  simp only [decSidxR', encSidx, List.append_assoc, u8.dec_enc h1, u24.dec_enc h2,
    u32.dec_enc h3, u32.dec_enc h4, (wide _).dec_enc h5, (wide _).dec_enc h6,
    u16.dec_enc (by decide : 0 < 65536), u16.dec_enc h7, (SidxRef.codec.many _).dec_enc ⟨rfl, h8⟩,
    andThen_some]

/-- the bytes are reproduced when the 16 reserved bits, which `parse` skips, were zero -/
theorem decSidxR'_spec : ∀ bs y, decSidxR' bs = some y →
    y.1.1.Wf ∧ (y.1.2 = 0 → encSidx y.1.1 ++ y.2 = bs) :=
  u8.bind fun v h1 => u24.bind fun f h2 => u32.bind fun rid h3 => u32.bind fun ts h4 =>
    (wide _).bind fun ept h5 => (wide _).bind fun fo h6 => u16.bind fun rsv h7 => u16.bind fun n h8 =>
    (SidxRef.codec.many n).bind fun refs h9 => Codec.ret fun r =>
    ⟨⟨h1, h2, h3, h4, h5, h6, h9.1 ▸ h8, h9.2⟩, fun hres => by
      simp only [encSidx, List.append_assoc, h9.1, show rsv = 0 from hres]⟩

theorem decSidx_encSidx (x : Sidx) (h : x.Wf) : decSidx (encSidx x) = some x := by
  simp [decSidx, exact_of_prefix (decSidxR'_encSidx x [] h)]

theorem encSidx_decSidx {bs : Bytes} {x : Sidx} (h : decSidx bs = some x)
    (hr : sidxReserved bs = some 0) : x.Wf ∧ encSidx x = bs := by
  unfold decSidx at h
  unfold sidxReserved at hr
  cases he : exact decSidxR' bs with
  | none => simp [he] at h
  | some p =>
    simp only [he, Option.map_some, Option.some.injEq] at h hr
    subst h
    simpa using (decSidxR'_spec _ _ (prefix_of_exact he)).imp_right (· hr)

theorem decEmsg_encEmsg (x : Emsg) (h : x.Wf) : decEmsg (encEmsg x) = some x := by
  obtain ⟨v, f, s, val, ts, ptd, pt, dur, eid, data⟩ := x
  obtain ⟨h1, h2, h3, h4, h5, h6, h7, h8⟩ := h
  by_cases h0 : v = 0
  · subst h0
    obtain ⟨h9, rfl⟩ : ptd < 4294967296 ∧ pt = 0 := by simpa using h8
    simp only [decEmsg, encEmsg, if_true, u8.dec_enc (by decide : 0 < 256), u24.dec_enc h2,
      andThen_some, decEmsgV0, cstr.dec_enc h3, cstr.dec_enc h4, u32.dec_enc h5, u32.dec_enc h9,
      u32.dec_enc h6, u32.dec_enc h7]
  · obtain rfl : v = 1 := by simp only at h1; omega
    obtain ⟨h9, rfl⟩ : pt < 18446744073709551616 ∧ ptd = 0 := by simpa using h8
    simp only [decEmsg, encEmsg, h0, if_true, if_false, u8.dec_enc (by decide : 1 < 256),
      u24.dec_enc h2, andThen_some, decEmsgV1, cstr.dec_enc h3, cstr.dec_enc h4, u32.dec_enc h5,
      u64.dec_enc h9, u32.dec_enc h6, u32.dec_enc h7]

theorem encEmsg_decEmsg : ∀ bs x, decEmsg bs = some x → x.Wf ∧ encEmsg x = bs :=
  u8.bind fun v h1 => u24.bind fun f h2 => by
    by_cases h0 : v = 0
    · subst h0
      simp only [↓reduceIte]
      exact cstr.bind fun s h3 => cstr.bind fun val h4 => u32.bind fun ts h5 =>
        u32.bind fun ptd h6 => u32.bind fun dur h7 => u32.bind fun eid h8 => Codec.ret fun data =>
        ⟨⟨(by decide : 0 < 2), h2, h3, h4, h5, h7, h8, by simpa using h6⟩, by simp only [encEmsg, if_true]⟩
    · by_cases h11 : v = 1
      · subst h11
        simp only [h0, ↓reduceIte]
        exact u32.bind fun ts h3 => u64.bind fun pt h4 => u32.bind fun dur h5 =>
          u32.bind fun eid h6 => cstr.bind fun s h7 => cstr.bind fun val h8 => Codec.ret fun data =>
          ⟨⟨(by decide : 1 < 2), h2, h7, h8, h3, h5, h6, by simpa using h4⟩,
            by simp only [encEmsg, h0, if_false]⟩
      · simp only [h0, h11, if_false]
        nofun

end DashLive.Boxes
