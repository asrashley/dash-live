import DashLive.Model.Boxes.Basic
import DashLive.Lemmas.Bytes
/-! Codec laws of the fixed-layout classes of `Model/Boxes/Basic.lean`. -/
namespace DashLive.Boxes
open DashLive.Bytes

/-- the premise has the shape that `dec_enc … []` delivers -/
theorem exact_of_prefix {α : Type} {d : Bytes → Option (α × Bytes)} {bs : Bytes} {a : α}
    (h : d (bs ++ []) = some (a, [])) : exact d bs = some a := by
  rw [List.append_nil] at h
  simp only [exact, h]

theorem _root_.DashLive.Bytes.Codec.exact_dec_enc {α : Type} {P : α → Prop} {e : α → Bytes}
    {d : Bytes → Option (α × Bytes)} (h : Codec P e d) {v : α} (hv : P v) :
    exact d (e v) = some v := exact_of_prefix (h.dec_enc hv [])

theorem prefix_of_exact {α : Type} {d : Bytes → Option (α × Bytes)} {bs : Bytes} {a : α}
    (h : exact d bs = some a) : d bs = some (a, []) := by
  unfold exact at h
  split at h
  · cases h; assumption
  · cases h

theorem _root_.DashLive.Bytes.Codec.exact_spec {α : Type} {P : α → Prop} {e : α → Bytes}
    {d : Bytes → Option (α × Bytes)} (h : Codec P e d) {bs : Bytes} {v : α}
    (hd : exact d bs = some v) : P v ∧ e v = bs := by
  simpa using h.spec (prefix_of_exact hd)

/-- `optBound c B`, `i32Ok c`, `ctoOk c s` of the model unfold to the predicates of `opt`/`optI`, so
the conjuncts of `X.Wf` fit `dec_enc` and `bind` as they stand -/
theorem _root_.DashLive.Bytes.Codec.opt {P : Nat → Prop} {e : Nat → Bytes}
    {d : Bytes → Option (Nat × Bytes)} (h : Codec P e d) (c : Bool) :
    Codec (fun v => if c then P v else v = 0) (encOpt c e) (decOpt c d) := h.ite c 0

theorem decOpt_spec (c : Bool) (enc : Nat → Bytes) (dec : Bytes → Option (Nat × Bytes))
    {bs : Bytes} {v : Nat} {rest : Bytes}
    (hdec : ∀ bs v r, dec bs = some (v, r) → enc v ++ r = bs)
    (h : decOpt c dec bs = some (v, rest)) :
    (c = false → v = 0) ∧ encOpt c enc v ++ rest = bs := by
  cases c with
  | true => exact ⟨nofun, hdec _ _ _ h⟩
  | false => cases h; exact ⟨fun _ => rfl, rfl⟩

theorem wide (w : Bool) : Codec (· < wBound w) (encW w) (decW w) := by
  cases w with
  | true => exact u64
  | false => exact u32

theorem Mfhd.codec : Codec Mfhd.Wf encMfhd decMfhd' :=
  .mk (fun x rest ⟨h1, h2, h3⟩ => by
      simp only [decMfhd', encMfhd, List.append_assoc, u8.dec_enc h1, u24.dec_enc h2,
        u32.dec_enc h3, andThen_some])
    (u8.bind fun v h1 => u24.bind fun f h2 => u32.bind fun s h3 => Codec.ret fun r =>
      ⟨⟨h1, h2, h3⟩, by simp only [encMfhd, List.append_assoc]⟩)

theorem Tfdt.codec : Codec Tfdt.Wf encTfdt decTfdt' :=
  .mk (fun x rest ⟨h1, h2, h3⟩ => by
      simp only [decTfdt', encTfdt, List.append_assoc, u8.dec_enc h1, u24.dec_enc h2,
        (wide _).dec_enc h3, andThen_some])
    (u8.bind fun v h1 => u24.bind fun f h2 => (wide _).bind fun t h3 => Codec.ret fun r =>
      ⟨⟨h1, h2, h3⟩, by simp only [encTfdt, List.append_assoc]⟩)

theorem encTfdt_length (x : Tfdt) :
    (encTfdt x).length = if x.version = 1 then 12 else 8 := by
  by_cases h : x.version = 1 <;> simp [encTfdt, encW, h]

theorem Mehd.codec : Codec Mehd.Wf encMehd decMehd' :=
  .mk (fun x rest ⟨h1, h2, h3⟩ => by
      simp only [decMehd', encMehd, List.append_assoc, u8.dec_enc h1, u24.dec_enc h2,
        (wide _).dec_enc h3, andThen_some])
    (u8.bind fun v h1 => u24.bind fun f h2 => (wide _).bind fun t h3 => Codec.ret fun r =>
      ⟨⟨h1, h2, h3⟩, by simp only [encMehd, List.append_assoc]⟩)

theorem Trex.codec : Codec Trex.Wf encTrex decTrex' :=
  .mk (fun x rest ⟨h1, h2, h3, h4, h5, h6, h7⟩ => by
      simp only [decTrex', encTrex, List.append_assoc, u8.dec_enc h1, u24.dec_enc h2,
        u32.dec_enc h3, u32.dec_enc h4, u32.dec_enc h5, u32.dec_enc h6, u32.dec_enc h7, andThen_some])
    (u8.bind fun v h1 => u24.bind fun f h2 => u32.bind fun a h3 => u32.bind fun b h4 =>
      u32.bind fun c h5 => u32.bind fun d h6 => u32.bind fun e h7 => Codec.ret fun r =>
      ⟨⟨h1, h2, h3, h4, h5, h6, h7⟩, by simp only [encTrex, List.append_assoc]⟩)

theorem Tenc.codec : Codec Tenc.Wf encTenc decTenc' :=
  .mk (fun x rest ⟨h1, h2, h3, h4, h5⟩ => by
      simp only [decTenc', encTenc, List.append_assoc, u8.dec_enc h1, u24.dec_enc h2,
        u24.dec_enc h3, u8.dec_enc h4, (take 16).dec_enc h5, andThen_some])
    (u8.bind fun v h1 => u24.bind fun f h2 => u24.bind fun a h3 => u8.bind fun b h4 =>
      (take 16).bind fun k h5 => Codec.ret fun r =>
      ⟨⟨h1, h2, h3, h4, h5⟩, by simp only [encTenc, List.append_assoc]⟩)

theorem decBrands_encMany (l : List Bytes) (h : ∀ b ∈ l, b.length = 4) :
    decBrands (encMany id l) = some l := by
  have hm := (takes 4 l.length).dec_enc ⟨rfl, h⟩ []
  rw [List.append_nil] at hm
  have h1 : 4 * l.length % 4 = 0 := by omega
  have h2 : 4 * l.length / 4 = l.length := by omega
  unfold decBrands
  rw [encMany_length_const id 4 l h, h1, h2, hm]
  simp

theorem decBrands_spec {bs : Bytes} {l : List Bytes} (h : decBrands bs = some l) :
    (∀ b ∈ l, b.length = 4) ∧ encMany id l = bs := by
  unfold decBrands at h
  split at h
  · cases h
  · rename_i hmod
    cases hm : decMany (takeN 4) (bs.length / 4) bs with
    | none => simp [hm] at h
    | some p =>
      obtain ⟨brands, r⟩ := p
      simp only [hm, Option.some.injEq] at h
      subst h
      obtain ⟨⟨hlen, hP⟩, henc⟩ := (takes 4 _).spec hm
      have h5 := congrArg List.length henc
      simp only [List.length_append, encMany_length_const id 4 brands hP, hlen] at h5
      have hr : r = [] := List.length_eq_zero_iff.mp (by omega)
      rw [hr, List.append_nil] at henc
      exact ⟨hP, henc⟩

theorem decFtyp_encFtyp (x : Ftyp) (h : x.Wf) : decFtyp (encFtyp x) = some x := by
  obtain ⟨h1, h2, h3⟩ := h
  simp only [decFtyp, encFtyp, (take 4).dec_enc h1, u32.dec_enc h2, andThen_some,
    decBrands_encMany _ h3]

theorem encFtyp_decFtyp : ∀ bs x, decFtyp bs = some x → x.Wf ∧ encFtyp x = bs :=
  (take 4).bind fun mj h1 => u32.bind fun mn h2 r x h3 => by
    cases hb : decBrands r with
    | none => simp [hb] at h3
    | some brands =>
      simp only [hb, Option.some.injEq] at h3
      subst h3
      obtain ⟨hP, rfl⟩ := decBrands_spec hb
      exact ⟨⟨h1, h2, hP⟩, rfl⟩

theorem tfdtAssign_wf (x : Tfdt) (v : Nat) (hx : x.Wf) (h0 : x.version = 0)
    (hv : v < 18446744073709551616) : (tfdtAssign x v).1.Wf := by
  obtain ⟨h1, h2, _⟩ := hx
  unfold tfdtAssign Tfdt.Wf wBound
  split <;> rename_i h <;> simp_all <;> omega

theorem tfdtAssign_length (x : Tfdt) (v : Nat) :
    (encTfdt (tfdtAssign x v).1).length = (encTfdt x).length + (tfdtAssign x v).2 := by
  unfold tfdtAssign
  split
  · rename_i h
    simp [encTfdt_length, h.1]
  · simp [encTfdt_length]

end DashLive.Boxes
