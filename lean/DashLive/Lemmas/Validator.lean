import DashLive.Model.Validator
import DashLive.Model.Segments
/-!
Lemmas about the validator model (`Model/Validator.lean`) for C18.

Past its three early returns `parse_data` is an append of independent guarded singletons
(`parseData_of_reaches`): membership in and emptiness of its error list are `simp` facts.
`Sound` is everything a media segment must satisfy apart from the three numbers C18's acceptance
theorems are about (sequence number, decode time, duration).  In a pass where every segment is
fetched, the chain a segment hands on depends on its response alone (`stepSeg_fetched_chain`), so
the pass is clean when each step is clean from what its predecessor's response leaves
(`repLoop_fetchAll_clean`).  Last, the validator's expansion of the `<S>` list the server writes
is the server's own `expandFrom` (`tlExpand_eq_expandFrom`).
-/
namespace DashLive.Validator
open DashLive.Segments

theorem almostEqual_iff (a b : Int) (d : Nat) :
    almostEqual a b d = true ↔ a - b ≤ d ∧ b - a ≤ d := by
  unfold almostEqual
  simp only [decide_eq_true_eq]
  omega

theorem almostEqual_self (a : Int) (d : Nat) : almostEqual a a d = true := by
  rw [almostEqual_iff]; omega

theorem almostEqual_false_iff (a b : Int) (d : Nat) :
    almostEqual a b d = false ↔ (d : Int) < a - b ∨ (d : Int) < b - a := by
  rw [← Bool.not_eq_true, almostEqual_iff]; omega

/-- the duration a timeline entry advertises (`durG'`) is off the stored one (`durG`) by at most
the loop drift `R − Σ durs` -/
theorem almostEqual_durG' (durs : List Nat) (R g ts : Nat) (h : ((R : Int) - (durs.sum : Int)).natAbs ≤ ts) :
    almostEqual ((durG' durs R g).toNat : Int) (durG durs g) ts = true := by
  have key : ∀ (d : Nat) (y : Int), y.natAbs ≤ ts → almostEqual (((d : Int) + y).toNat : Int) d ts = true := by
    intro d y hy; rw [almostEqual_iff]; omega
  apply key
  split
  · exact h
  · exact Nat.zero_le _

theorem parseData_of_reaches {c : RepCtx} {o : SegObs} (hiv : c.infoEncrypted = true → c.ivKnown = true)
    (hmoof : o.hasMoof = true) (hmdat : o.hasMdat = true) :
    parseData c o =
      ((if c.video then (if c.optEncrypted = c.infoEncrypted then [] else [.encryption])
          else if c.infoEncrypted ∧ ¬ c.optEncrypted then [.encryption] else []) ++
        (if 1 < o.nAtoms then [] else [.atomCount]) ++ (if o.emsgOk then [] else [.emsg]) ++
        (if o.baseDataOffset + o.dataOffset = ((o.mdatPos + o.mdatHdr : Nat) : Int) then []
          else [.trunFirst]) ++
        (if o.baseDataOffset + o.dataOffset + (sumSizes o.samples : Int)
            ≤ ((o.mdatPos + o.mdatSize : Nat) : Int) then [] else [.trunLast]), true) := by
  have h : ¬ (c.infoEncrypted = true ∧ ¬ c.ivKnown = true) := fun h => h.2 (hiv h.1)
  simp only [parseData, if_neg h, hmoof, hmdat, not_true_eq_false, if_false]

/-- the fragment is what the Representation announces: status, MIME type, encryption as
requested, boxes present, trun pointing at the mdat payload, saio pointing at the first senc
entry, presentation times unique and non-negative, timescales sane and equal -/
structure Sound (c : RepCtx) (pto : Int) (o : SegObs) : Prop where
  status : o.status = wantStatus c
  ctype : o.ctypeOk = true
  encVideo : c.video = true → c.optEncrypted = c.infoEncrypted
  encOther : c.video = false → c.infoEncrypted = true → c.optEncrypted = true
  iv : c.infoEncrypted = true → c.ivKnown = true
  atoms : 1 < o.nAtoms
  moof : o.hasMoof = true
  mdat : o.hasMdat = true
  emsg : o.emsgOk = true
  trunFirst : o.baseDataOffset + o.dataOffset = ((o.mdatPos + o.mdatHdr : Nat) : Int)
  trunLast : o.baseDataOffset + o.dataOffset + (sumSizes o.samples : Int)
              ≤ ((o.mdatPos + o.mdatSize : Nat) : Int)
  enc : encErrs c o = []
  moov : c.hasMoov = true
  trex : o.needsTrex = true → c.hasTrex = true
  pts : ptsLoop pto o.tfdt [] o.samples = []
  mediaTs : c.mediaTs = some c.dashTs
  dashTs : c.dashTs ≠ 0

theorem parseData_sound {c : RepCtx} {pto : Int} {o : SegObs} (h : Sound c pto o) :
    parseData c o = ([], true) := by
  rw [parseData_of_reaches h.iv h.moof h.mdat, if_pos h.atoms, if_pos h.emsg, if_pos h.trunFirst,
    if_pos h.trunLast]
  have h1 := h.encVideo; have h2 := h.encOther
  cases hv : c.video <;> simp_all

theorem obsDuration_sound {c : RepCtx} {pto : Int} {o : SegObs} (h : Sound c pto o) :
    obsDuration c o = sumDurs o.samples := by
  unfold obsDuration; rw [h.mediaTs]; simp

theorem validateSegment_sound {c : RepCtx} (e : SegExp) {o : SegObs} (h : Sound c e.pto o) :
    validateSegment c e o = seqErrs e o ++ decodeErrs e o ++ durErrs c e o := by
  have hd := h.dashTs
  have ht := h.trex
  unfold validateSegment segTail ctypeErrs
  rw [parseData_sound h, h.enc, h.pts, h.mediaTs]
  cases hn : o.needsTrex <;> simp_all [h.status, h.ctype, h.moov]

theorem segResult_sound {c : RepCtx} {pto : Int} {o : SegObs} (h : Sound c pto o) :
    segResult c o = { seq := some o.seq, duration := some (sumDurs o.samples),
                      nextDecode := some ((o.tfdt : Int) + (sumDurs o.samples : Int)) } := by
  have hd := h.dashTs
  have ht := h.trex
  unfold segResult
  rw [parseData_sound h, obsDuration_sound h, h.mediaTs]
  cases hn : o.needsTrex <;> simp_all [h.status, h.moov]

/-- the request was answered with the expected status and a moof could be parsed -/
def Reaches (c : RepCtx) (o : SegObs) : Prop := o.status = wantStatus c ∧ (parseData c o).2 = true

theorem validateSegment_not_reaches {c : RepCtx} {e : SegExp} {o : SegObs} (h : ¬ Reaches c o) :
    validateSegment c e o ≠ [] := by
  unfold validateSegment
  by_cases hs : o.status = wantStatus c
  · have hp : (parseData c o).2 = false := by
      cases hq : (parseData c o).2
      · rfl
      · exact absurd ⟨hs, hq⟩ h
    simp [hs, hp]
  · simp [hs]

theorem validateSegment_of_reaches {c : RepCtx} {o : SegObs} (hr : Reaches c o) (e : SegExp) :
    validateSegment c e o =
      ctypeErrs o ++ (parseData c o).1 ++ encErrs c o ++ seqErrs e o ++ decodeErrs e o ++ segTail c e o := by
  simp [validateSegment, hr.1, hr.2]

theorem validateSegment_ne_nil_of_mem {c : RepCtx} {e : SegExp} {o : SegObs} (x : SegErr)
    (h : x ∈ ctypeErrs o ++ (parseData c o).1 ++ encErrs c o ++ seqErrs e o ++ decodeErrs e o ++
      segTail c e o) :
    validateSegment c e o ≠ [] := fun hnil => by
  by_cases hr : Reaches c o
  · rw [validateSegment_of_reaches hr] at hnil
    exact List.ne_nil_of_mem h hnil
  · exact validateSegment_not_reaches hr hnil

theorem stepSeg_fetched_errs (c : RepCtx) (ch : Chain) (e : SegExp) (o : SegObs) :
    (stepSeg c ch (SegState.fresh e) (Outcome.fetched o)).2.1 =
      (inherit c ch e).2.2 ++ validateSegment c (inherit c ch e).1 o := rfl

theorem stepSeg_fetched_chain {c : RepCtx} {pto : Int} {o : SegObs} (h : Sound c pto o) (ch : Chain)
    (e : SegExp) :
    (stepSeg c ch (SegState.fresh e) (Outcome.fetched o)).2.2 =
      { nextDecode := some (o.tfdt + sumDurs o.samples), nextSeq := some (o.seq + 1),
        totalDur := ch.totalDur + sumDurs o.samples } := by
  simp [stepSeg, SegState.fresh, segResult_sound h]

/-- `he`, `ht`: an expectation of `genTimeline` for a `$Time$` template – only the number is
inherited -/
theorem inherit_of_decode (c : RepCtx) (ch : Chain) {e : SegExp} {t : Int} (he : e.expSeq = none)
    (ht : e.expDecode = some t) :
    inherit c ch e = ({ e with expSeq := ch.nextSeq }, ch.nextDecode, []) := by
  unfold inherit
  cases h : ch.nextSeq <;> simp [he, ht]

/-- an expectation of `genTemplate` whose number the predecessor handed on (`hs`): the
predecessor's end becomes the expected decode time, after the `chain` check -/
theorem inherit_of_number_chained (c : RepCtx) {ch : Chain} {e : SegExp} {N nd : Int} {du : Nat}
    (he : e.expSeq = some N) (ht : e.expDecode = none) (hdu : e.expDur = some du)
    (hs : ch.nextSeq = some N) (hd : ch.nextDecode = some nd) :
    inherit c ch e = ({ e with expDecode := some nd }, some nd,
      if almostEqual ((N - c.startNumber) * (c.tmplDuration.getD 0 : Nat) * (c.mediaTs.getD 0 : Nat)
            / (c.dashTs : Int)) nd (du / 2) then [] else [SegErr.chain]) := by
  obtain ⟨_, _, _, _, _⟩ := e
  cases he; cases ht; cases hdu
  simp [inherit, hs, hd]

theorem inherit_of_number_unchained (c : RepCtx) {ch : Chain} {e : SegExp} {N : Int}
    (he : e.expSeq = some N) (ht : e.expDecode = none)
    (h : ¬ ∃ nd, ch.nextSeq = some N ∧ ch.nextDecode = some nd) :
    inherit c ch e = (e, none, []) := by
  obtain ⟨_, _, _, _, _⟩ := e
  cases he; cases ht
  unfold inherit
  by_cases hs : ch.nextSeq = some N
  · cases hd : ch.nextDecode with
    | none => simp [hs]
    | some nd => exact absurd ⟨nd, hs, hd⟩ h
  · simp [Ne.symm hs]

theorem stepSeg_clean_of_decode {c : RepCtx} {e : SegExp} {o : SegObs} (hs : Sound c e.pto o) (ch : Chain)
    {t : Int} {du : Nat} (he : e.expSeq = none) (ht : e.expDecode = some t) (hdu : e.expDur = some du)
    (hseq : ∀ n, ch.nextSeq = some n → n = (o.seq : Int))
    (htf : almostEqual t o.tfdt e.tol = true)
    (hd : almostEqual (du : Int) (sumDurs o.samples) c.dashTs = true) :
    (stepSeg c ch (SegState.fresh e) (Outcome.fetched o)).2.1 = [] := by
  rw [stepSeg_fetched_errs, inherit_of_decode c ch he ht]
  show [] ++ validateSegment c { e with expSeq := ch.nextSeq } o = []
  rw [validateSegment_sound { e with expSeq := ch.nextSeq } hs]
  cases hn : ch.nextSeq with
  | none => simp [seqErrs, decodeErrs, durErrs, ht, hdu, htf, hd, obsDuration_sound hs]
  | some n => simp [seqErrs, decodeErrs, durErrs, ht, hdu, htf, hd, obsDuration_sound hs, hseq n hn]

theorem stepSeg_clean_of_number {c : RepCtx} {e : SegExp} {o : SegObs} (hs : Sound c e.pto o) (ch : Chain)
    {N : Int} {sd : Nat} (he : e.expSeq = some N) (ht : e.expDecode = none) (hdu : e.expDur = some sd)
    (hseq : (o.seq : Int) = N) (htd : c.tmplDuration = some sd)
    (hch : ∀ nd, ch.nextSeq = some N → ch.nextDecode = some nd →
      almostEqual ((N - c.startNumber) * sd) nd (sd / 2) = true ∧ almostEqual nd o.tfdt e.tol = true)
    (hd : almostEqual (sd : Int) (sumDurs o.samples) c.dashTs = true) :
    (stepSeg c ch (SegState.fresh e) (Outcome.fetched o)).2.1 = [] := by
  rw [stepSeg_fetched_errs]
  by_cases hc : ∃ nd, ch.nextSeq = some N ∧ ch.nextDecode = some nd
  · obtain ⟨nd, h1, h2⟩ := hc
    obtain ⟨a1, a2⟩ := hch nd h1 h2
    -- media timescale = DASH timescale (`Sound.mediaTs`): the expected time is `(N − sn)·sd`
    have hexp : (N - c.startNumber) * (sd : Int) * (c.dashTs : Int) / (c.dashTs : Int)
        = (N - c.startNumber) * sd := Int.mul_ediv_cancel _ (by have := hs.dashTs; omega)
    rw [inherit_of_number_chained c he ht hdu h1 h2]
    show _ ++ validateSegment c { e with expDecode := some nd } o = []
    rw [validateSegment_sound { e with expDecode := some nd } hs]
    simp [seqErrs, decodeErrs, durErrs, he, hdu, hseq, hd, obsDuration_sound hs, hs.mediaTs, htd, hexp, a1, a2]
  · rw [inherit_of_number_unchained c he ht hc]
    show [] ++ validateSegment c e o = []
    rw [validateSegment_sound e hs]
    simp [seqErrs, decodeErrs, durErrs, he, ht, hdu, hseq, hd, obsDuration_sound hs]

/-- a pass in which every generated segment is fetched -/
def fetchAll (exps : List SegExp) (obs : List SegObs) : List (SegState × Outcome) :=
  List.zipWith (fun e o => (SegState.fresh e, Outcome.fetched o)) exps obs

/-- clean first step, and every further step clean from the chain its predecessor's response
leaves – for every `tot`: nothing reads `totalDur` when `need = none` -/
theorem repLoop_fetchAll_clean (c : RepCtx) (pto : Int) (k : Nat) (exps : Nat → SegExp) (obs : Nat → SegObs)
    (hsound : ∀ i, i < k → Sound c pto (obs i))
    (hfirst : 0 < k →
      (stepSeg c Chain.init (SegState.fresh (exps 0)) (Outcome.fetched (obs 0))).2.1 = [])
    (hnext : ∀ i, i + 1 < k → ∀ tot,
      (stepSeg c { nextDecode := some ((obs i).tfdt + sumDurs (obs i).samples),
                   nextSeq := some ((obs i).seq + 1), totalDur := tot }
        (SegState.fresh (exps (i + 1))) (Outcome.fetched (obs (i + 1)))).2.1 = []) :
    located (repPass c none (fetchAll ((List.range k).map exps) ((List.range k).map obs))) = [] := by
  have clean : ∀ p ∈ repPass c none (fetchAll ((List.range k).map exps) ((List.range k).map obs)),
      p.2 = [] := by
    unfold repPass
    generalize Chain.init = ch at hfirst ⊢
    induction k generalizing exps obs ch with
    | zero => intro p hp; simp [fetchAll, repLoop] at hp
    | succ k ih =>
      intro p hp
      simp only [List.range_succ_eq_map, List.map_cons, List.map_map, fetchAll, List.zipWith_cons_cons,
        repLoop, List.mem_cons] at hp
      rcases hp with rfl | hp
      · exact hfirst (Nat.succ_pos k)
      · rw [stepSeg_fetched_chain (hsound 0 (Nat.succ_pos k))] at hp
        exact ih (fun i => exps (i + 1)) (fun i => obs (i + 1)) (fun i hi => hsound (i + 1) (by omega))
          (fun i hi => hnext (i + 1) (by omega)) _ (fun hk => hnext 0 (by omega) _) p hp
  -- no step gains an error, so `located` has nothing to tag
  unfold located
  rw [List.flatMap_eq_nil_iff]
  intro p hp
  simp [clean p.1 (List.fst_mem_of_mem_zipIdx hp)]

/-- the `<S>` element the server writes for a node of `generateSegmentTimeline` -/
def toSElem (s : SNode) : SElem := { t := s.start, d := s.dur, r := (s.count : Int) - 1 }

theorem tlRepeat_eq (start d : Int) (n : Nat) :
    tlRepeat start d n = (List.range n).map fun (i : Nat) => (start + (i : Int) * d, d) := by
  induction n generalizing start with
  | zero => rfl
  | succ n ih =>
    simp [tlRepeat, ih, List.range_succ_eq_map, Function.comp_def, Int.add_mul, Int.add_assoc, Int.add_comm d]

/-- `h`, `hcur`: what the server's node lists satisfy (a duration and a positive count on every
node, `@t` on the first) -/
theorem tlExpand_eq_expandFrom (l : List SNode) (cur : Option Int)
    (h : ∀ s ∈ l, s.dur.isSome = true ∧ 1 ≤ s.count)
    (hcur : cur = none → ∀ s ∈ l.head?, s.start.isSome = true) :
    tlExpand cur (l.map toSElem) = (expandFrom (cur.getD 0) l, []) := by
  induction l generalizing cur with
  | nil => rfl
  | cons s rest ih =>
    obtain ⟨hd, hc⟩ := h s (by simp)
    obtain ⟨d, hd'⟩ := Option.isSome_iff_exists.mp hd
    have hn : ((s.count : Int) - 1 + 1).toNat = s.count := by omega
    -- behind a node with `@d` the running start is known, so `hcur` is void for the rest
    have hrest := fun t' => ih (some t') (fun s' hs' => h s' (by simp [hs'])) (by simp)
    cases hs : s.start with
    | some v =>
      simp only [List.map_cons, tlExpand, toSElem, hd', hs, expandFrom, Option.getD_some, hn, hrest,
        List.append_nil, tlRepeat_eq]
    | none =>
      cases cur with
      | none => simp [hs] at hcur
      | some v =>
        simp only [List.map_cons, tlExpand, toSElem, hd', hs, expandFrom, Option.getD_some,
          Option.getD_none, hn, hrest, List.append_nil, tlRepeat_eq]

end DashLive.Validator
