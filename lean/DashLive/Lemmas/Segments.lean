import DashLive.Model.Segments
/-! `get_segment_index` (`Model/Segments.lean`) as a search over global positions `g = loop·n + m`:
the state of the Python loop is `repr` of the position `idxSearch` has reached (`gsiLoop_sim`), and
`idxSearch_spec` makes that the least position not `before tc`; the `index_*` theorems are read off it. -/
namespace DashLive.Segments

theorem durAt_of_lt {durs : List Nat} {k : Nat} (h : k < durs.length) : durAt durs k = durs[k] := by
  unfold durAt; simp [List.getD, h]

theorem prefixSum_zero (durs : List Nat) : prefixSum durs 0 = 0 := by simp [prefixSum]

theorem prefixSum_succ {durs : List Nat} {k : Nat} (h : k < durs.length) :
    prefixSum durs (k + 1) = prefixSum durs k + durAt durs k := by
  unfold prefixSum
  rw [List.take_add_one, List.sum_append, durAt_of_lt h]
  simp [h]

theorem prefixSum_length (durs : List Nat) : prefixSum durs durs.length = durs.sum := by
  simp [prefixSum]

theorem prefixSum_mono (durs : List Nat) {j k : Nat} (h : j ≤ k) : prefixSum durs j ≤ prefixSum durs k := by
  unfold prefixSum
  rw [← List.take_append_drop j (durs.take k), List.sum_append, List.take_take, Nat.min_eq_left h]
  exact Nat.le_add_right _ _

theorem prefixSum_le_sum (durs : List Nat) (k : Nat) : prefixSum durs k ≤ durs.sum := by
  unfold prefixSum
  conv => rhs; rw [← List.take_append_drop k durs, List.sum_append]
  exact Nat.le_add_right _ _

theorem prefixSum_last {durs : List Nat} {m : Nat} (h : m + 1 = durs.length) :
    prefixSum durs m + durAt durs m = durs.sum := by
  rw [← prefixSum_succ (by omega), h, prefixSum_length]

theorem succ_mod_of_lt {n g : Nat} (h : g % n + 1 < n) :
    (g + 1) % n = g % n + 1 ∧ (g + 1) / n = g / n := by
  have hn : 0 < n := by omega
  have h1 := Nat.div_add_mod g n
  have := (Nat.div_mod_unique (a := g + 1) (b := n) (c := g % n + 1) (d := g / n) hn).mpr
    ⟨by omega, h⟩
  exact ⟨this.2, this.1⟩

theorem succ_mod_of_eq {n g : Nat} (hn : 0 < n) (h : g % n + 1 = n) :
    (g + 1) % n = 0 ∧ (g + 1) / n = g / n + 1 := by
  have h1 := Nat.div_add_mod g n
  have := (Nat.div_mod_unique (a := g + 1) (b := n) (c := 0) (d := g / n + 1) hn).mpr
    ⟨by rw [Nat.mul_add]; omega, hn⟩
  exact ⟨this.2, this.1⟩

theorem startG_succ_of_lt {durs : List Nat} (R g : Nat) (h : g % durs.length + 1 < durs.length) :
    startG durs R (g + 1) = startG durs R g + durG durs g := by
  obtain ⟨h1, h2⟩ := succ_mod_of_lt h
  unfold startG durG
  rw [h1, h2, prefixSum_succ (by omega)]
  omega

theorem startG_succ_of_eq {durs : List Nat} (R g : Nat) (hn : 0 < durs.length)
    (h : g % durs.length + 1 = durs.length) :
    startG durs R (g + 1) = (g / durs.length + 1) * R := by
  obtain ⟨h1, h2⟩ := succ_mod_of_eq hn h
  unfold startG
  rw [h1, h2, prefixSum_zero]
  omega

theorem startG_mul (durs : List Nat) (R L : Nat) (hn : 0 < durs.length) :
    startG durs R (L * durs.length) = L * R := by
  unfold startG
  rw [Nat.mul_mod_left, Nat.mul_div_cancel _ hn, prefixSum_zero, Nat.add_zero]

/-- **gapless**: each position starts where the previous one, with its *advertised*
duration (`+ drift` on the last segment of a loop), ends. -/
theorem startG_succ (durs : List Nat) (R g : Nat) (hn : 0 < durs.length) :
    (startG durs R (g + 1) : Int) = startG durs R g + durG' durs R g := by
  unfold durG'
  by_cases h : g % durs.length + 1 = durs.length
  · have hl := prefixSum_last h
    rw [startG_succ_of_eq R g hn h, if_pos h, Nat.add_mul, Nat.one_mul]
    unfold startG durG
    omega
  · have := Nat.mod_lt g hn
    rw [startG_succ_of_lt R g (by omega), if_neg h]
    omega

/-- the loop's continue-condition at position `g` -/
def before (durs : List Nat) (R tc g : Nat) : Prop := startG durs R g + durG durs g / 2 < tc

instance (durs : List Nat) (R tc g : Nat) : Decidable (before durs R tc g) := by
  unfold before; infer_instance

def idxSearch (durs : List Nat) (R tc : Nat) : Nat → Nat → Nat
  | 0, g => g
  | f+1, g => if before durs R tc g then idxSearch durs R tc f (g + 1) else g

/-- the position `get_segment_index` selects -/
def index (durs : List Nat) (R tc : Nat) : Nat :=
  idxSearch durs R tc (durs.length + 1) (tc / R * durs.length)

/-- state of the Python loop that corresponds to position `g` -/
def repr (durs : List Nat) (R g : Nat) : Nat × Nat × Nat :=
  (g % durs.length, startG durs R g, g / durs.length * R)

theorem gsiLoop_sim (durs : List Nat) (R tc : Nat) (hn : 0 < durs.length) :
    ∀ fuel g, gsiLoop durs R tc fuel (g % durs.length) (startG durs R g) (g / durs.length * R)
      = repr durs R (idxSearch durs R tc fuel g) := by
  intro fuel
  induction fuel with
  | zero => intro g; rfl
  | succ f ih =>
    intro g
    unfold gsiLoop idxSearch
    have hm := Nat.mod_lt g hn
    -- the loop's test is `before` at position `g`; a step moves to position `g + 1`
    change (if before durs R tc g then _ else _) = _
    by_cases hc : before durs R tc g
    · rw [if_pos hc, if_pos hc, ← ih (g + 1)]
      by_cases hw : g % durs.length + 1 ≥ durs.length
      · obtain ⟨h1, h2⟩ := succ_mod_of_eq (g := g) hn (by omega)
        rw [if_pos hw, h1, h2, startG_succ_of_eq R g hn (by omega), Nat.add_mul, Nat.one_mul]
      · obtain ⟨h1, h2⟩ := succ_mod_of_lt (g := g) (n := durs.length) (by omega)
        rw [if_neg hw, h1, h2, startG_succ_of_lt R g (by omega)]
        rfl
    · rw [if_neg hc, if_neg hc]
      rfl

theorem getSegmentIndex_eq (durs : List Nat) (R tc : Nat) (hn : 0 < durs.length) :
    getSegmentIndex durs R tc =
      (index durs R tc % durs.length + 1, startG durs R (index durs R tc),
       index durs R tc / durs.length * R) := by
  unfold getSegmentIndex index
  have := gsiLoop_sim durs R tc hn (durs.length + 1) (tc / R * durs.length)
  rw [Nat.mul_mod_left, Nat.mul_div_cancel _ hn, startG_mul durs R _ hn] at this
  simp only [this, repr]

theorem idxSearch_spec (durs : List Nat) (R tc : Nat) : ∀ fuel g,
    g ≤ idxSearch durs R tc fuel g ∧ idxSearch durs R tc fuel g ≤ g + fuel ∧
    (∀ g', g ≤ g' → g' < idxSearch durs R tc fuel g → before durs R tc g') ∧
    (idxSearch durs R tc fuel g < g + fuel → ¬ before durs R tc (idxSearch durs R tc fuel g))
  | 0, g => ⟨Nat.le_refl _, Nat.le_refl _, fun g' h1 h2 => absurd (Nat.lt_of_le_of_lt h1 h2) (Nat.lt_irrefl _),
      fun h => absurd h (Nat.lt_irrefl _)⟩
  | f+1, g => by
    unfold idxSearch
    split
    · rename_i hb
      obtain ⟨a, b, c, d⟩ := idxSearch_spec durs R tc f (g + 1)
      refine ⟨by omega, by omega, fun g' h1 h2 => ?_, fun h => d (by omega)⟩
      rcases Nat.eq_or_lt_of_le h1 with rfl | h1
      · exact hb
      · exact c g' h1 h2
    · rename_i hb
      exact ⟨Nat.le_refl _, Nat.le_add_right _ _, fun g' h1 h2 => by omega, fun _ => hb⟩

theorem idxSearch_le (durs : List Nat) (R tc : Nat) : ∀ fuel g, idxSearch durs R tc fuel g ≤ g + fuel :=
  fun fuel g => (idxSearch_spec durs R tc fuel g).2.1

/-- **specification of `get_segment_index`**: the selected position `g` is the least
position `≥ ⌊tc/R⌋·n` whose start plus half its duration reaches `tc`; it lies in the
loop containing `tc` or is the first position of the next loop. -/
theorem index_spec (durs : List Nat) (R tc : Nat) (hR : 0 < R) (hn : 0 < durs.length) :
    tc / R * durs.length ≤ index durs R tc ∧
    index durs R tc ≤ (tc / R + 1) * durs.length ∧
    ¬ before durs R tc (index durs R tc) ∧
    ∀ g', tc / R * durs.length ≤ g' → g' < index durs R tc → before durs R tc g' := by
  unfold index
  obtain ⟨a, b, c, d⟩ := idxSearch_spec durs R tc (durs.length + 1) (tc / R * durs.length)
  generalize idxSearch durs R tc (durs.length + 1) (tc / R * durs.length) = g at a b c d ⊢
  -- the first position of the next loop stops the search, so `n + 1` iterations suffice
  have hstop : ¬ before durs R tc ((tc / R + 1) * durs.length) := by
    unfold before
    rw [startG_mul durs R _ hn, Nat.add_mul, Nat.one_mul]
    have := Nat.lt_div_mul_add (a := tc) hR
    omega
  rw [Nat.add_mul, Nat.one_mul] at hstop ⊢
  have hle : g ≤ tc / R * durs.length + durs.length :=
    Nat.le_of_not_lt fun h => hstop (c _ (Nat.le_add_right _ _) h)
  exact ⟨a, hle, d (by omega), c⟩

/-- the three properties of `index_spec` determine the position -/
theorem index_unique (durs : List Nat) (R tc g : Nat) (hR : 0 < R) (hn : 0 < durs.length)
    (h1 : tc / R * durs.length ≤ g) (h2 : ¬ before durs R tc g)
    (h3 : ∀ g', tc / R * durs.length ≤ g' → g' < g → before durs R tc g') :
    index durs R tc = g := by
  obtain ⟨a, _, c, d⟩ := index_spec durs R tc hR hn
  rcases Nat.lt_trichotomy (index durs R tc) g with hlt | he | hgt
  · exact absurd (h3 _ a hlt) c
  · exact he
  · exact absurd (d g h1 hgt) h2

theorem index_mono (durs : List Nat) (R tc₁ tc₂ : Nat) (hR : 0 < R) (hn : 0 < durs.length)
    (h : tc₁ ≤ tc₂) : index durs R tc₁ ≤ index durs R tc₂ := by
  obtain ⟨_, _, _, d1⟩ := index_spec durs R tc₁ hR hn
  obtain ⟨a2, _, c2, _⟩ := index_spec durs R tc₂ hR hn
  -- otherwise the earlier search passed over the later result, which `before` (antitone in `tc`) forbids
  refine Nat.le_of_not_lt fun hlt => c2 ?_
  have := d1 _ (Nat.le_trans (Nat.mul_le_mul_right _ (Nat.div_le_div_right h)) a2) hlt
  unfold before at this ⊢
  omega

/-- `H1`: every stored segment starts inside one loop of the timing reference -/
def StartsInsideLoop (durs : List Nat) (R : Nat) : Prop :=
  ∀ m, m < durs.length → prefixSum durs m < R

/-- `H2`: every stored segment has a positive duration -/
def PositiveDurs (durs : List Nat) : Prop := ∀ m, m < durs.length → 1 ≤ durAt durs m

theorem same_loop {n g g' : Nat} (hn : 0 < n) (h1 : g / n * n ≤ g') (h2 : g' < g) :
    g' / n = g / n ∧ g' % n < g % n := by
  have e : g' / n = g / n :=
    Nat.div_eq_of_lt_le h1 (Nat.lt_trans h2 (Nat.mul_comm _ _ ▸ Nat.lt_mul_div_succ g hn))
  have hg := Nat.div_add_mod g n
  have hg' := Nat.div_add_mod g' n
  rw [e] at hg'
  exact ⟨e, by omega⟩

theorem startG_div_mod (durs : List Nat) (R g : Nat) (hn : 0 < durs.length)
    (h1 : StartsInsideLoop durs R) :
    startG durs R g / R = g / durs.length ∧ startG durs R g % R = prefixSum durs (g % durs.length) := by
  have hp := h1 (g % durs.length) (Nat.mod_lt g hn)
  exact (Nat.div_mod_unique (Nat.zero_lt_of_lt hp)).mpr
    ⟨by unfold startG; rw [Nat.mul_comm, Nat.add_comm], hp⟩

/-- the search for `$Time$ = startG g` stops at `g`: the earlier positions of `g`'s loop end
(`P_{j'} + d_{j'} = P_{j'+1} ≤ P_j`, `d_{j'} ≥ 1`) at or before `startG g` -/
theorem index_startG (durs : List Nat) (R g : Nat) (hn : 0 < durs.length)
    (h1 : StartsInsideLoop durs R) (h2 : PositiveDurs durs) : index durs R (startG durs R g) = g := by
  have hR : 0 < R := Nat.zero_lt_of_lt (h1 _ (Nat.mod_lt g hn))
  have hdiv := (startG_div_mod durs R g hn h1).1
  refine index_unique durs R _ g hR hn ?_ ?_ ?_
  · rw [hdiv]; exact Nat.div_mul_le_self g durs.length
  · unfold before; omega
  · intro g' hg1 hg2
    rw [hdiv] at hg1
    obtain ⟨e1, e2⟩ := same_loop hn hg1 hg2
    have hm := Nat.mod_lt g hn
    have hd := h2 (g' % durs.length) (by omega)
    have hmono := prefixSum_mono durs (j := g' % durs.length + 1) (k := g % durs.length) e2
    rw [prefixSum_succ (by omega)] at hmono
    unfold before startG durG
    rw [e1]
    omega

private theorem ite_or_ite {α : Type} {p q : Prop} [Decidable p] [Decidable q] (a b : α) :
    (if p then a else if q then a else b) = if p ∨ q then a else b := by
  by_cases hp : p <;> simp [hp]

theorem liveIndex_time (conv : Nat → Int) (durs : List Nat) (ts sd sn R : Nat) (w : Win) (t : Nat) :
    liveIndex conv durs ts sd sn R w (.time t) =
      if (conv t < w.F - w.leeway ∨ conv t > w.E) ∨ durs.length < 2 ∨
          (((t / sd : Nat) : Int) + sn < (firstLastLive ts sd sn w).1 ∨
            ((t / sd : Nat) : Int) + sn > (firstLastLive ts sd sn w).2) then .notFound
      else .ok (getSegmentIndex durs R t).1 (getSegmentIndex durs R t).2.2 (((t / sd : Nat) : Int) + sn) := by
  simp only [liveIndex, Int.toNat_natCast, if_neg (Int.not_lt.mpr (Int.natCast_nonneg t)), ite_or_ite]

theorem liveIndex_number (conv : Nat → Int) (durs : List Nat) (ts sd sn R : Nat) (w : Win) (n : Int) :
    liveIndex conv durs ts sd sn R w (.number n) =
      if (n - sn) * sd < 0 ∨
          (conv ((n - sn) * sd).toNat < w.F - w.leeway ∨ conv ((n - sn) * sd).toNat > w.E) ∨
          durs.length < 2 ∨ (n < (firstLastLive ts sd sn w).1 ∨ n > (firstLastLive ts sd sn w).2) then .notFound
      else .ok (getSegmentIndex durs R ((n - sn) * sd).toNat).1
        (getSegmentIndex durs R ((n - sn) * sd).toNat).2.2 n := by
  simp only [liveIndex, ite_or_ite]

/-- a VOD `$Time$` request is the `$Number$` request for `(t + sd/4) / sd + sn` -/
theorem vodIndex_time (n sd sn t : Nat) :
    vodIndex n sd sn (.time t) = vodIndex n sd sn (.number ((((t + sd / 4) / sd : Nat) : Int) + sn)) :=
  rfl

end DashLive.Segments

#print axioms DashLive.Segments.same_loop
