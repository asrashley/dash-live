import DashLive.Model.LiveTiming
import DashLive.Lemmas.Calendar
/-!
# Lemmas for C08 (live timing): integer arithmetic over microseconds

`resolved now s` is the start before the zero-elapsed back-off, with closed forms `resolved_today`,
`resolved_month`, `resolved_year`; `calc_core`, `calc_of_lt` and `calc_symbolic` read
`calculateLiveParams` off it, and through these three Props/C08 and Props/C09 reason about the model.

`omega` pays for every `/` and `%` it meets (whatever the size of the literals): such facts are taken
from the `Int` lemmas where that is short, and the constants stay atoms where their values do not
matter.  The one non-linear step, the division by the *variable* update period, is in
`publish_some_spec`/`publish_mono_of_le`.
-/
namespace DashLive.LiveTiming
open DashLive.Calendar

theorem usPerSec_pos : 0 < usPerSec := by decide

theorem dayUs_pos : 0 < dayUs := by decide

theorem dayUs_eq : dayUs = 86400 * usPerSec := rfl

theorem whole_of_midnight {t : Int} (h : t % dayUs = 0) : t % usPerSec = 0 := by
  rw [← Int.emod_emod_of_dvd t (dayUs_eq ▸ Int.dvd_mul_left 86400 usPerSec), h, Int.zero_emod]

theorem floorSec_le (t : Int) : floorSec t ≤ t :=
  Int.sub_le_self t (Int.emod_nonneg t (by decide))

theorem floorSec_gt (t : Int) : t - usPerSec < floorSec t :=
  Int.sub_lt_sub_left (Int.emod_lt_of_pos t usPerSec_pos) t

theorem floorSec_whole (t : Int) : floorSec t % usPerSec = 0 := by
  rw [floorSec, Int.sub_emod_emod, Int.sub_self]; rfl

theorem floorSec_of_whole (t : Int) (h : t % usPerSec = 0) : floorSec t = t := by
  rw [floorSec, h, Int.sub_zero]

theorem le_floorSec {a t : Int} (ha : a % usPerSec = 0) (h : a ≤ t) : a ≤ floorSec t := by
  unfold floorSec usPerSec at *; omega

theorem floorSec_mono {a b : Int} (h : a ≤ b) : floorSec a ≤ floorSec b :=
  le_floorSec (floorSec_whole a) (Int.le_trans (floorSec_le a) h)

section
variable {now : Int} (h : 0 ≤ now)
include h

theorem dayStart_eq : dayStart now = now - now % dayUs := by
  rw [dayStart, dayOf, Int.toNat_of_nonneg (Int.ediv_nonneg h (Int.le_of_lt dayUs_pos)), Int.emod_def,
    Int.sub_sub_self, Int.mul_comm]

theorem dayStart_le : dayStart now ≤ now := by
  rw [dayStart_eq h]; exact Int.sub_le_self now (Int.emod_nonneg now (by decide))

theorem lt_dayStart_add : now < dayStart now + dayUs := by
  have := Int.emod_lt_of_pos now dayUs_pos
  rw [dayStart_eq h]; omega

theorem emod_dayUs_le : now % dayUs ≤ now := by
  have := Int.mul_nonneg (Int.natCast_nonneg (dayOf now)) (Int.le_of_lt dayUs_pos)
  rw [← dayStart, dayStart_eq h] at this
  exact Int.le_of_sub_nonneg this

end

theorem dayStart_midnight (now : Int) : dayStart now % dayUs = 0 := Int.mul_emod_left _ _

theorem hourOf_eq {t : Int} (h : 0 ≤ t) : hourOf t = t % dayUs / hourUs := by
  rw [hourOf, dayStart_eq h, Int.sub_sub_self]

theorem minuteOf_eq {t : Int} (h : 0 ≤ t) : minuteOf t = t % dayUs % hourUs / minuteUs := by
  rw [minuteOf, dayStart_eq h, Int.sub_sub_self]

theorem initialDepth_pos (d : Option Int) : 0 < initialDepth true d := by
  unfold initialDepth defaultDepth
  cases d with
  | none => simp
  | some d =>
    simp only [true_and]
    split <;> omega

theorem clampDepth_bounds {e depth : Int} (he : 0 ≤ e) (hd : 0 < depth) :
    0 ≤ clampDepth e depth ∧ clampDepth e depth * usPerSec ≤ e ∧ clampDepth e depth ≤ depth := by
  unfold clampDepth
  split
  · next hlt =>
    rw [Int.tdiv_eq_ediv_of_nonneg he]
    exact ⟨Int.ediv_nonneg he (Int.le_of_lt usPerSec_pos), Int.ediv_mul_le e (Int.ne_of_gt usPerSec_pos),
      Int.le_of_lt (Int.ediv_lt_of_lt_mul usPerSec_pos hlt)⟩
  · next hge => exact ⟨Int.le_of_lt hd, Int.not_lt.mp hge, Int.le_refl _⟩

/-- the depth a manifest writes into its URLs (`handOn`) is read back as itself at the same age; for a
stream younger than 1 s the clamped depth 0 is read back as "absent", becomes the default 60 and is
clamped to 0 again -/
theorem clampDepth_idem (e d0 : Int) (he : 0 < e) (hd : 0 < d0) :
    clampDepth e (initialDepth true (some (clampDepth e d0))) = clampDepth e d0 := by
  unfold clampDepth initialDepth usPerSec defaultDepth
  by_cases h1 : e < d0 * 1000000
  · simp only [h1, if_true]
    rw [Int.tdiv_eq_ediv_of_nonneg (Int.le_of_lt he)]
    -- the test of `initialDepth true` on the clamped depth `e / 10⁶`, as `simp` writes it
    by_cases h2 : e / 1000000 = 0 ∨ (True ∧ e / 1000000 < 0)
    · simp only [h2, if_true]
      have : e < 60 * 1000000 := by omega
      simp only [this, if_true]
    · simp only [h2, if_false]
      have : ¬ (e < e / 1000000 * 1000000) := by omega
      simp only [this, if_false]
  · simp only [h1, if_false]
    have h2 : ¬ (d0 = 0 ∨ (True ∧ d0 < 0)) := by omega
    simp only [h2, if_false, h1]

theorem roundHalfEven_pos_iff (n d : Nat) (hd : 0 < d) : 1 ≤ roundHalfEven n d ↔ d < 2 * n := by
  rcases Nat.lt_or_ge n d with h | h
  · -- quotient 0, remainder `n`: rounded up exactly past the half (the tie goes to the even 0)
    simp only [roundHalfEven, Nat.div_eq_of_lt h, Nat.mod_eq_of_lt h]
    by_cases c : d < 2 * n
    · simp [c, Nat.lt_asymm c]
    · simp [c]
  · -- quotient ≥ 1, and rounding never goes below the quotient
    have hq : n / d ≤ roundHalfEven n d := by
      simp only [roundHalfEven]
      repeat' split
      all_goals omega
    exact ⟨fun _ => by omega, fun _ => Nat.le_trans (Nat.div_pos h hd) hq⟩

theorem defaultMup_pos (r : Ref) : 1 ≤ defaultMup true r := by
  unfold defaultMup
  simp only [if_true]
  omega

theorem effectiveMup_pos {r : Ref} {m : Option Int} {p : Int}
    (h : effectiveMup true r m = some p) : 0 < p := by
  cases m with
  | none => cases h; exact Int.lt_of_lt_of_le (by decide) (defaultMup_pos r)
  | some m =>
    simp only [effectiveMup] at h
    split at h <;> cases h
    omega

theorem publish_some_eq {pub0 ast e p : Int} (hast : ast % usPerSec = 0) :
    publish pub0 ast e (some p) = ast + e / (p * usPerSec) * p * usPerSec :=
  floorSec_of_whole _ ((Int.add_mul_emod_self_right ..).trans hast)

/-- the non-linear step: `⌊e / (p·10⁶)⌋ · p·10⁶` is the largest multiple of `p` seconds `≤ e` -/
theorem publish_some_spec {a now p : Int} (hp : 0 < p) (ha : a % usPerSec = 0) (hle : a ≤ now) :
    (∃ k : Int, 0 ≤ k ∧ publish (floorSec now) a (now - a) (some p) = a + k * p * usPerSec) ∧
    publish (floorSec now) a (now - a) (some p) ≤ now ∧
    now - publish (floorSec now) a (now - a) (some p) < p * usPerSec := by
  have hq : 0 < p * usPerSec := Int.mul_pos hp usPerSec_pos
  have h1 := Int.ediv_mul_le (now - a) (Int.ne_of_gt hq)
  have h2 := Int.lt_ediv_add_one_mul_self (now - a) hq
  rw [Int.add_mul, Int.one_mul, ← Int.mul_assoc] at h2
  rw [← Int.mul_assoc] at h1
  rw [publish_some_eq ha]
  exact ⟨⟨_, Int.ediv_nonneg (Int.sub_nonneg_of_le hle) (Int.le_of_lt hq), rfl⟩, by omega, by omega⟩

theorem publish_mono_of_le {a now₁ now₂ : Int} {m : Option Int} (hm : ∀ p, m = some p → 0 < p)
    (ha : a % usPerSec = 0) (hle : now₁ ≤ now₂) :
    publish (floorSec now₁) a (now₁ - a) m ≤ publish (floorSec now₂) a (now₂ - a) m := by
  cases m with
  | none => exact floorSec_mono hle
  | some p =>
    have hq : 0 < p * usPerSec := Int.mul_pos (hm p rfl) usPerSec_pos
    rw [publish_some_eq ha, publish_some_eq ha, Int.mul_assoc, Int.mul_assoc]
    exact Int.add_le_add_left (Int.mul_le_mul_of_nonneg_right
      (Int.ediv_le_ediv hq (Int.sub_le_sub_right hle a)) (Int.le_of_lt hq)) a

/-- the start `calculateLiveParams` uses before the zero-elapsed back-off -/
def resolved (now : Int) (s : Start) : Int := (resolveStart true now (floorSec now) s).1

theorem resolved_epoch (now : Int) : resolved now .epoch = 0 := rfl

theorem resolved_now (now : Int) : resolved now .now = floorSec now - minuteUs := rfl

theorem resolved_explicit (now t off : Int) : resolved now (.explicit t off) = floorSec t := rfl

section
variable {now : Int} (h : 0 ≤ now)
include h

theorem today_guard :
    (hourOf (floorSec now) = 0 ∧ minuteOf (floorSec now) = 0) ↔ now % dayUs < minuteUs := by
  have hp : 0 ≤ floorSec now := le_floorSec (a := 0) rfl h
  -- hour 0 and minute 0 of a time of day: its first minute (one `omega` for both steps costs more)
  have hfirst {x : Int} (hx : 0 ≤ x) : (x / hourUs = 0 ∧ x % hourUs / minuteUs = 0) ↔ x < minuteUs := by
    unfold hourUs minuteUs; omega
  rw [hourOf_eq hp, minuteOf_eq hp, hfirst (Int.emod_nonneg _ (by decide))]
  -- day and minute are whole seconds: dropping the microseconds of `now` does not move it across either
  unfold floorSec dayUs minuteUs usPerSec; omega

theorem resolved_today :
    resolved now .today = if now % dayUs < minuteUs then dayStart now - dayUs else dayStart now :=
  (apply_ite Prod.fst _ _ _).trans (ite_congr (propext (today_guard h)) (fun _ => rfl) (fun _ => rfl))

/-- the `month`/`year` guard (timing.py:112-119): a start at the midnight of day `k ≤` today is moved
back a day exactly when `k` is today: day `k`, but at least one day before today's midnight -/
theorem backDay_eq {k : Nat} (hk : k ≤ dayOf now) :
    (if floorSec now - (k : Int) * dayUs < dayUs then (k : Int) * dayUs - dayUs else (k : Int) * dayUs) =
      min ((k : Int) * dayUs) (dayStart now - dayUs) := by
  rcases Nat.eq_or_lt_of_le hk with hk | hk
  · rw [hk, ← dayStart, Int.min_eq_right (Int.sub_le_self _ (Int.le_of_lt dayUs_pos)),
      if_pos (Int.sub_left_lt_of_lt_add (Int.lt_of_le_of_lt (floorSec_le now) (lt_dayStart_add h)))]
  · -- an earlier midnight is at least a day before today's, which `floorSec now` has reached
    have hk' := Int.mul_le_mul_of_nonneg_right (Int.ofNat_lt.mpr hk) (Int.le_of_lt dayUs_pos)
    rw [Int.add_mul, Int.one_mul, ← dayStart] at hk'
    have h1 := le_floorSec (whole_of_midnight (dayStart_midnight now)) (dayStart_le h)
    rw [Int.min_eq_left (Int.le_sub_right_of_add_le hk'),
      if_neg (Int.not_lt.mpr (Int.le_sub_left_of_add_le (Int.le_trans hk' h1)))]

theorem resolved_month :
    resolved now .month = min (monthStart now) (dayStart now - dayUs) :=
  (apply_ite Prod.fst _ _ _).trans (backDay_eq h (monthStartDay_le _))

theorem resolved_year :
    resolved now .year = min (yearStart now) (dayStart now - dayUs) :=
  (apply_ite Prod.fst _ _ _).trans (backDay_eq h (yearStartDay_le _))

theorem resolved_midnight {s : Start}
    (hs : s = .today ∨ s = .month ∨ s = .year) :
    resolved now s % dayUs = 0 ∧ resolved now s + minuteUs ≤ now := by
  have hd : (dayStart now - dayUs) % dayUs = 0 := by rw [Int.sub_emod_right]; exact dayStart_midnight now
  have hback {r : Int} (hr : r ≤ dayStart now - dayUs) : r + minuteUs ≤ now :=
    Int.le_trans (Int.add_le_add hr (by decide : minuteUs ≤ dayUs))
      ((Int.sub_add_cancel ..).symm ▸ dayStart_le h)
  have hmin (M : Nat) : min ((M : Int) * dayUs) (dayStart now - dayUs) % dayUs = 0 ∧
      min ((M : Int) * dayUs) (dayStart now - dayUs) + minuteUs ≤ now := by
    refine ⟨?_, hback (Int.min_le_right ..)⟩
    rw [Int.min_def]; split
    · exact Int.mul_emod_left _ _
    · exact hd
  rcases hs with rfl | rfl | rfl
  · rw [resolved_today h]
    split
    · exact ⟨hd, hback (Int.le_refl _)⟩
    · exact ⟨dayStart_midnight now, by rw [dayStart_eq h]; omega⟩
  · rw [resolved_month h]; exact hmin _
  · rw [resolved_year h]; exact hmin _

theorem resolved_aged {s : Start} (hs : s.isSymbolic = true) (hne : s ≠ .epoch) :
    resolved now s % usPerSec = 0 ∧ resolved now s + minuteUs ≤ now := by
  cases s with
  | explicit t off => cases hs
  | epoch => exact absurd rfl hne
  | now =>
    refine ⟨(Int.sub_mul_emod_self_right ..).trans (floorSec_whole now), ?_⟩
    rw [resolved_now, Int.sub_add_cancel]; exact floorSec_le now
  | today | month | year => exact (resolved_midnight h (by decide)).imp_left whole_of_midnight

theorem resolved_le_whole (s : Start) (hat : ∀ t off, s = .explicit t off → floorSec t ≤ now) :
    resolved now s ≤ now ∧ resolved now s % usPerSec = 0 := by
  by_cases hs : s.isSymbolic = true ∧ s ≠ .epoch
  · obtain ⟨hw, ha⟩ := resolved_aged h hs.1 hs.2
    exact ⟨Int.le_trans (Int.le_add_of_nonneg_right (by decide)) ha, hw⟩
  · cases s with
    | explicit t off => exact ⟨hat t off rfl, floorSec_whole t⟩
    | epoch => exact ⟨h, rfl⟩
    | _ => exact absurd ⟨rfl, nofun⟩ hs

end

theorem backOff_self (a : Int) : backOff a a = (a - dayUs, dayUs) := by
  rw [backOff, Int.sub_self]; rfl

theorem backOff_of_ne {now ast0 : Int} (h : ast0 ≠ now) : backOff ast0 now = (ast0, now - ast0) :=
  if_neg (fun e => h (Int.eq_of_sub_eq_zero e).symm)

theorem calc_ast (now : Int) (ref : Ref) (o : Options) :
    (calculateLiveParams now ref o).availabilityStartTime = (backOff (resolved now o.start) now).1 := rfl

theorem calc_elapsed (now : Int) (ref : Ref) (o : Options) :
    (calculateLiveParams now ref o).elapsedTime = (backOff (resolved now o.start) now).2 := rfl

theorem calc_tsbd (now : Int) (ref : Ref) (o : Options) :
    (calculateLiveParams now ref o).timeShiftBufferDepth =
      clampDepth (calculateLiveParams now ref o).elapsedTime (initialDepth true o.depth) := rfl

theorem calc_fat (now : Int) (ref : Ref) (o : Options) :
    (calculateLiveParams now ref o).firstAvailableTime =
      (calculateLiveParams now ref o).elapsedTime -
        (calculateLiveParams now ref o).timeShiftBufferDepth * usPerSec := rfl

theorem calc_publish (now : Int) (ref : Ref) (o : Options) :
    (calculateLiveParams now ref o).publishTime =
      publish (floorSec now) (calculateLiveParams now ref o).availabilityStartTime
        (calculateLiveParams now ref o).elapsedTime (effectiveMup true ref o.mup) := rfl

structure Core (now : Int) (t : LiveTiming) : Prop where
  ast_le : t.availabilityStartTime ≤ now
  ast_whole : t.availabilityStartTime % usPerSec = 0
  elapsed_eq : t.elapsedTime = now - t.availabilityStartTime
  elapsed_pos : 0 < t.elapsedTime

theorem Core.ast_lt {now : Int} {t : LiveTiming} (c : Core now t) : t.availabilityStartTime < now :=
  Int.sub_pos.mp (c.elapsed_eq ▸ c.elapsed_pos)

theorem calc_core {now : Int} (ref : Ref) {o : Options} (h0 : 0 ≤ now)
    (hat : ∀ t off, o.start = .explicit t off → floorSec t ≤ now) :
    Core now (calculateLiveParams now ref o) := by
  obtain ⟨hle, hw⟩ := resolved_le_whole h0 o.start hat
  have h1 := calc_ast now ref o
  have h2 := calc_elapsed now ref o
  rcases Int.lt_or_eq_of_le hle with hlt | heq
  · rw [backOff_of_ne (Int.ne_of_lt hlt)] at h1 h2
    exact ⟨h1 ▸ hle, h1 ▸ hw, h1 ▸ h2, h2 ▸ Int.sub_pos.mpr hlt⟩
  · rw [heq, backOff_self] at h1 h2
    have hw' : (now - dayUs) % usPerSec = 0 := by
      rw [dayUs_eq, Int.sub_mul_emod_self_right]; exact heq ▸ hw
    exact ⟨h1 ▸ Int.sub_le_self _ (Int.le_of_lt dayUs_pos), h1 ▸ hw',
      h2.trans (h1 ▸ (Int.sub_sub_self ..).symm), h2 ▸ dayUs_pos⟩

theorem Core.publish_eq {now : Int} {ref : Ref} {o : Options}
    (c : Core now (calculateLiveParams now ref o)) :
    (calculateLiveParams now ref o).publishTime =
      publish (floorSec now) (calculateLiveParams now ref o).availabilityStartTime
        (now - (calculateLiveParams now ref o).availabilityStartTime) (effectiveMup true ref o.mup) :=
  c.elapsed_eq ▸ calc_publish now ref o

theorem calc_of_lt {now : Int} (ref : Ref) {o : Options} (h : resolved now o.start < now) :
    (calculateLiveParams now ref o).availabilityStartTime = resolved now o.start ∧
    (calculateLiveParams now ref o).elapsedTime = now - resolved now o.start := by
  rw [calc_ast, calc_elapsed, backOff_of_ne (Int.ne_of_lt h)]
  exact ⟨rfl, rfl⟩

/-- an explicit start on a whole second before `now` (the form `handOn` writes) is taken as it is -/
theorem calc_explicit_whole {now a off : Int} (ref : Ref) {o : Options} (hs : o.start = .explicit a off)
    (ha : a % usPerSec = 0) (hlt : a < now) :
    (calculateLiveParams now ref o).availabilityStartTime = a ∧
    (calculateLiveParams now ref o).elapsedTime = now - a := by
  have hres : resolved now o.start = a := by rw [hs]; exact floorSec_of_whole _ ha
  rw [← hres] at hlt ⊢
  exact calc_of_lt ref hlt

theorem calc_symbolic {now : Int} (ref : Ref) {o : Options} (h0 : 0 ≤ now)
    (hs : o.start.isSymbolic = true) (hep : o.start = .epoch → minuteUs ≤ now) :
    (calculateLiveParams now ref o).availabilityStartTime = resolved now o.start ∧
    (calculateLiveParams now ref o).elapsedTime = now - resolved now o.start ∧
    resolved now o.start + minuteUs ≤ now := by
  have a : resolved now o.start + minuteUs ≤ now := by
    by_cases he : o.start = .epoch
    · rw [he]; exact (Int.zero_add minuteUs).symm ▸ hep he
    · exact (resolved_aged h0 hs he).2
  have hlt : resolved now o.start < now := by unfold minuteUs at a; omega
  exact ⟨(calc_of_lt ref hlt).1, (calc_of_lt ref hlt).2, a⟩

/-- the symbolic kinds for which `calc_symbolic` needs no side condition on the clock -/
theorem symbolic_ne_epoch {s : Start} (hs : s = .today ∨ s = .month ∨ s = .year ∨ s = .now) :
    s.isSymbolic = true ∧ s ≠ .epoch := by
  rcases hs with rfl | rfl | rfl | rfl <;> exact ⟨rfl, nofun⟩

theorem resolved_same_day {now₁ now₂ : Int} {s : Start} (h₁ : 0 ≤ now₁) (h₂ : 0 ≤ now₂)
    (hday : now₁ / dayUs = now₂ / dayUs)
    (hs : s = .epoch ∨ (s = .today ∧ (now₁ % dayUs < minuteUs ↔ now₂ % dayUs < minuteUs)) ∨
      s = .month ∨ s = .year) :
    resolved now₁ s = resolved now₂ s := by
  have hd : dayOf now₁ = dayOf now₂ := congrArg Int.toNat hday
  have hds : dayStart now₁ = dayStart now₂ := by unfold dayStart; rw [hd]
  rcases hs with rfl | ⟨rfl, ht⟩ | rfl | rfl
  · rfl
  · rw [resolved_today h₁, resolved_today h₂, hds]; simp only [ht]
  · rw [resolved_month h₁, resolved_month h₂, hds]; unfold monthStart; rw [hd]
  · rw [resolved_year h₁, resolved_year h₂, hds]; unfold yearStart; rw [hd]

end DashLive.LiveTiming
