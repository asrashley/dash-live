import DashLive.Model.Range
/-!
The RFC 7233 side of C13 (`Spec`, `Denotes`, the expected responses) and the lemmas that tie
it to the model of `get_http_range` and its two consumers in `Model/Range.lean`.
Backward: every header that parses spells a `Spec` (`parseRange_ofSpec`: its integers are
naturals, the separator of `split('-')` being the only way to write a minus sign).
Forward: a canonical header parses to its `Spec` (`Denotes` + `parseRange_denotes`, with
`natRepr_isDigits`/`decVal_natRepr` for numbers).  A header that does not parse is answered
400 (`consumers_unparsed`); one that does, by both consumers with the bytes `Spec.bounds`
selects (`consumers_ofSpec`, then `specResponse_of_served`/`specResponse_of_not_served`).
-/
namespace DashLive.Range

/-- the three forms of a single `byte-range-spec` / `suffix-byte-range-spec` -/
inductive Spec
  | firstLast (first last : Nat)
  | fromFirst (first : Nat)
  | suffix (n : Nat)
  deriving DecidableEq, Repr

/-- RFC 7233 §2.1: a `first-last` spec is (syntactically) valid only if `first ≤ last` -/
def Spec.Valid : Spec → Prop
  | .firstLast a b => a ≤ b
  | _ => True

/-- RFC 7233 §2.1: satisfiable iff `first-byte-pos < length`, or a non-zero
suffix length (of a non-empty resource: no `Content-Range` can name an empty body) -/
def Spec.satisfiable (len : Nat) : Spec → Bool
  | .firstLast a _ => decide (a < len)
  | .fromFirst a => decide (a < len)
  | .suffix n => decide (0 < n ∧ 0 < len)

/-- RFC 7233 §2.1: the first and last byte selected.  `last` is clamped to
`len − 1`; a suffix longer than the resource starts at 0 (truncated subtraction). -/
def Spec.bounds (len : Nat) : Spec → Nat × Nat
  | .firstLast a b => (a, min b (len - 1))
  | .fromFirst a => (a, len - 1)
  | .suffix n => (len - n, len - 1)

/-- `sp.bounds len` is an interval inside the resource: answered with 206 -/
abbrev Spec.Served (sp : Spec) (len : Nat) : Prop :=
  (sp.bounds len).1 ≤ (sp.bounds len).2 ∧ (sp.bounds len).2 < len

/-- what the parser returns for a header that spells `sp` -/
def Parsed.ofSpec : Spec → Parsed
  | .firstLast a b => .firstLast a b
  | .fromFirst a => .fromFirst a
  | .suffix n => .suffix n

/-- `1*DIGIT` -/
def IsDigits (ds : List Char) : Prop := ds ≠ [] ∧ ∀ c ∈ ds, c.isDigit = true

def decVal (ds : List Char) : Nat := Nat.ofDigitChars 10 ds 0

/-- the two digit strings of `first "-" [last]`: all digits, possibly empty -/
def AllDigits (ds : List Char) : Prop := ∀ c ∈ ds, c.isDigit = true

/-- `d1 "-" d2` is the RFC 7233 text of `sp` (1*DIGIT, leading zeros allowed) -/
inductive Denotes : List Char → List Char → Spec → Prop
  | firstLast {d1 d2} (h1 : IsDigits d1) (h2 : IsDigits d2) :
      Denotes d1 d2 (.firstLast (decVal d1) (decVal d2))
  | fromFirst {d1} (h1 : IsDigits d1) : Denotes d1 [] (.fromFirst (decVal d1))
  | suffix {d2} (h2 : IsDigits d2) : Denotes [] d2 (.suffix (decVal d2))

theorem natRepr_isDigits (n : Nat) : IsDigits (natRepr n) :=
  ⟨Nat.toDigits_ne_nil, fun _ hc => Nat.isDigit_of_mem_toDigits (by decide) (by decide) hc⟩

theorem decVal_natRepr (n : Nat) : decVal (natRepr n) = n :=
  Nat.ofDigitChars_toDigits (by decide) (by decide)

/-- bytes `s..e` (inclusive) of the resource -/
def slice {α : Type} (data : List α) (s e : Nat) : List α := (data.drop s).take (e - s + 1)

/-- the text `bytes s-e/len` -/
def crText (s e len : Nat) : List Char :=
  ['b', 'y', 't', 'e', 's', ' '] ++ natRepr s ++ ['-'] ++ natRepr e ++ ['/'] ++ natRepr len

def okResp {α : Type} (data : List α) (s e : Nat) : Response α :=
  { status := 206, body := slice data s e, contentRange := some (crText s e data.length) }

def unsatResp {α : Type} (data : List α) : Response α :=
  { status := 416, body := [], contentRange := some (crUnsatisfied data.length) }

def badResp {α : Type} : Response α := { status := 400, body := [], contentRange := none }

/-- the answer to a header that spells `sp`, valid or not -/
def specResponse {α : Type} (sp : Spec) (data : List α) : Response α :=
  if sp.Served data.length then okResp data (sp.bounds data.length).1 (sp.bounds data.length).2
  else unsatResp data

variable {α : Type} {lim : Nat}

theorem specResponse_of_served {sp : Spec} {data : List α} (h : sp.Served data.length) :
    specResponse sp data = okResp data (sp.bounds data.length).1 (sp.bounds data.length).2 := if_pos h

theorem specResponse_of_not_served {sp : Spec} {data : List α} (h : ¬ sp.Served data.length) :
    specResponse sp data = unsatResp data := if_neg h

theorem Spec.satisfiable_iff {sp : Spec} (hv : sp.Valid) (len : Nat) :
    sp.satisfiable len = true ↔ sp.Served len := by
  cases sp <;>
    simp only [Spec.Valid, Spec.satisfiable, Spec.Served, Spec.bounds, decide_eq_true_eq] at hv ⊢ <;> omega

theorem allDigits_nil : AllDigits [] := fun _ h => absurd h List.not_mem_nil

theorem isDigit_ne {c d : Char} (h : c.isDigit = true) (hd : d.isDigit = false) : c ≠ d := by
  intro e
  rw [e, hd] at h
  cases h

theorem isDigit_range {c : Char} (h : c.isDigit = true) : 48 ≤ c.toNat ∧ c.toNat ≤ 57 := by
  simp only [Char.isDigit, Bool.and_eq_true, decide_eq_true_eq] at h
  exact ⟨UInt32.le_iff_toNat_le.mp h.1, UInt32.le_iff_toNat_le.mp h.2⟩

theorem lowerChar_digit {c : Char} (h : c.isDigit = true) : lowerChar c = c := by
  have := isDigit_range h
  unfold lowerChar
  rw [if_neg]
  omega

theorem isSpaceInt_digit {c : Char} (h : c.isDigit = true) : isSpaceInt c = false := by
  have := isDigit_range h
  unfold isSpaceInt
  simp only [Bool.or_eq_false_iff, Bool.and_eq_false_iff, decide_eq_false_iff_not, beq_eq_false_iff_ne]
  omega

theorem isSpaceStr_digit {c : Char} (h : c.isDigit = true) : isSpaceStr c = false := by
  have := isDigit_range h
  unfold isSpaceStr
  simp only [isSpaceInt_digit h, Bool.false_or, Bool.and_eq_false_iff, decide_eq_false_iff_not]
  omega

theorem mem_stripBy {p : Char → Bool} {s : List Char} {c : Char} (h : c ∈ stripBy p s) : c ∈ s :=
  (List.dropWhile_sublist p).subset
    (List.mem_reverse.mp ((List.dropWhile_sublist p).subset (List.mem_reverse.mp h)))

theorem stripBy_of_forall_false {p : Char → Bool} {s : List Char} (h : ∀ c ∈ s, p c = false) :
    stripBy p s = s := by
  have hd : ∀ {t : List Char}, (∀ c ∈ t, p c = false) → t.dropWhile p = t := by
    intro t ht
    cases t with
    | nil => rfl
    | cons c cs => simp [List.dropWhile, ht c (by simp)]
  unfold stripBy
  rw [hd h, hd (fun c hc => h c (List.mem_reverse.mp hc)), List.reverse_reverse]

theorem lower_append (a b : List Char) : lower (a ++ b) = lower a ++ lower b := List.map_append

theorem lower_cons (c : Char) (cs : List Char) : lower (c :: cs) = lowerChar c :: lower cs := rfl

theorem lower_digits {ds : List Char} (h : AllDigits ds) : lower ds = ds :=
  (List.map_congr_left fun c hc => lowerChar_digit (h c hc)).trans (List.map_id' ds)

theorem pyInt_natCast_of_no_dash {s : List Char} {v : Int} (hs : '-' ∉ s)
    (h : pyInt lim s = some v) : ∃ n : Nat, v = n := by
  unfold pyInt at h
  have hneg : ¬ ((stripBy isSpaceInt s).head? = some '-') :=
    fun hh => hs (mem_stripBy (List.mem_of_head? hh))
  simp only [hneg, if_false] at h
  split at h
  next v' cnt _ =>
    split at h
    · cases h
    · exact ⟨v', (Option.some.inj h).symm⟩
  · cases h

theorem parseDigits_digits (ds : List Char) (hd : AllDigits ds) :
    ∀ (prev : Bool) (acc cnt : Nat), (ds ≠ [] ∨ prev = true) →
      parseDigits ds prev acc cnt = some (Nat.ofDigitChars 10 ds acc, cnt + ds.length) := by
  induction ds with
  | nil =>
    intro prev acc cnt h
    have : prev = true := by simpa using h
    simp [parseDigits, this, Nat.ofDigitChars]
  | cons c cs ih =>
    intro prev acc cnt _
    have hc := hd c (by simp)
    unfold parseDigits
    simp only [hc, if_true]
    rw [ih (fun d hdm => hd d (by simp [hdm])) true _ _ (Or.inr rfl)]
    simp only [Nat.ofDigitChars_cons, List.length_cons]
    congr 2
    omega

theorem pyInt_isDigits {ds : List Char} (h : IsDigits ds) :
    pyInt lim ds = if lim < ds.length then none else some (decVal ds : Int) := by
  obtain ⟨hne, hall⟩ := h
  unfold pyInt
  rw [stripBy_of_forall_false (fun c hc => isSpaceInt_digit (hall c hc))]
  cases ds with
  | nil => exact absurd rfl hne
  | cons c cs =>
    have hc := hall c (by simp)
    simp only [List.head?_cons, Option.some.injEq, isDigit_ne hc (d := '-') (by decide),
      isDigit_ne hc (d := '+') (by decide), or_self, if_false]
    rw [parseDigits_digits (c :: cs) hall false 0 0 (Or.inl hne)]
    simp only [Nat.zero_add, decVal]

theorem pyInt_of_length_le {ds : List Char} (h : IsDigits ds) (hl : ds.length ≤ lim) :
    pyInt lim ds = some (decVal ds : Int) := by
  rw [pyInt_isDigits h, if_neg (Nat.not_lt.mpr hl)]

theorem pyInt_of_lt_length {ds : List Char} (h : AllDigits ds) (hl : lim < ds.length) :
    pyInt lim ds = none := by
  rw [pyInt_isDigits ⟨List.ne_nil_of_length_pos (Nat.zero_lt_of_lt hl), h⟩, if_pos hl]

theorem splitDash_ne_nil (s : List Char) : splitDash s ≠ [] := by
  induction s with
  | nil => simp [splitDash]
  | cons c cs ih =>
    unfold splitDash
    split
    · simp
    · split <;> simp

theorem splitDash_no_dash (s : List Char) : ∀ p ∈ splitDash s, '-' ∉ p := by
  induction s with
  | nil => simp [splitDash]
  | cons c cs ih =>
    unfold splitDash
    split
    · simpa using ih
    next hc =>
      split
      next q qs heq =>
        rw [heq] at ih
        simp only [List.mem_cons, forall_eq_or_imp, not_or] at ih ⊢
        exact ⟨⟨Ne.symm hc, ih.1⟩, ih.2⟩
      · simpa using Ne.symm hc

theorem splitDash_of_no_dash {s : List Char} (h : '-' ∉ s) : splitDash s = [s] := by
  induction s with
  | nil => rfl
  | cons c cs ih =>
    have hc : c ≠ '-' := fun e => h (by simp [e])
    have hcs : '-' ∉ cs := fun e => h (by simp [e])
    unfold splitDash
    rw [if_neg hc, ih hcs]

theorem splitDash_append_dash {a : List Char} (ha : '-' ∉ a) (b : List Char) :
    splitDash (a ++ '-' :: b) = a :: splitDash b := by
  induction a with
  | nil => exact if_pos rfl
  | cons c cs ih =>
    have hc : c ≠ '-' := fun e => ha (by simp [e])
    have hcs : '-' ∉ cs := fun e => ha (by simp [e])
    rw [List.cons_append, splitDash, if_neg hc, ih hcs]

theorem allDigits_no_dash {ds : List Char} (h : AllDigits ds) : '-' ∉ ds :=
  fun hm => isDigit_ne (h _ hm) (by decide) rfl

theorem parseRange_ofSpec {hdr : List Char} {p : Parsed}
    (h : parseRange lim hdr = some p) : ∃ sp, p = .ofSpec sp := by
  unfold parseRange at h
  simp only at h
  split at h
  · cases h
  split at h
  · cases h
  split at h
  next s e heq =>
    -- neither piece of `split('-')` holds a `-`, so `int()` of it is not negative
    have hs : '-' ∉ s := splitDash_no_dash _ s (by rw [heq]; simp)
    have he : '-' ∉ e := splitDash_no_dash _ e (by rw [heq]; simp)
    split at h
    · obtain ⟨v, hv, rfl⟩ := Option.map_eq_some_iff.mp h
      obtain ⟨n, rfl⟩ := pyInt_natCast_of_no_dash he hv
      exact ⟨.suffix n, rfl⟩
    · split at h
      · cases h
      next a ha =>
        obtain ⟨m, rfl⟩ := pyInt_natCast_of_no_dash hs ha
        split at h
        · cases h
          exact ⟨.fromFirst m, rfl⟩
        · obtain ⟨v, hv, rfl⟩ := Option.map_eq_some_iff.mp h
          obtain ⟨n, rfl⟩ := pyInt_natCast_of_no_dash he hv
          exact ⟨.firstLast m n, rfl⟩
  · cases h

/-- everything up to `split('-')` on `<unit>=<d1>-<d2>` where `<unit>=` is
`bytes=` in any letter case -/
theorem parseRange_canonical_split {pre d1 d2 : List Char}
    (hpre : lower pre = bytesEq) (h1 : AllDigits d1) (h2 : AllDigits d2) :
    parseRange lim (pre ++ d1 ++ '-' :: d2) =
      (if d1 = [] then (pyInt lim d2).map Parsed.suffix
       else match pyInt lim d1 with
        | none => none
        | some a =>
          if d2 = [] then some (Parsed.fromFirst a) else (pyInt lim d2).map (Parsed.firstLast a)) := by
  have hlow : lower (pre ++ d1 ++ '-' :: d2) = bytesEq ++ (d1 ++ '-' :: d2) := by
    rw [List.append_assoc, lower_append, lower_append, hpre, lower_digits h1, lower_cons, lower_digits h2]
    rfl
  have hall : ∀ c ∈ bytesEq ++ (d1 ++ '-' :: d2), isSpaceStr c = false ∧ c ≠ ',' := by
    intro c hc
    simp only [List.mem_append, List.mem_cons] at hc
    rcases hc with hc | hc | rfl | hc
    · revert c; decide
    · exact ⟨isSpaceStr_digit (h1 c hc), isDigit_ne (h1 c hc) (by decide)⟩
    · decide
    · exact ⟨isSpaceStr_digit (h2 c hc), isDigit_ne (h2 c hc) (by decide)⟩
  have hnc : ',' ∉ bytesEq ++ (d1 ++ '-' :: d2) := fun hc => (hall _ hc).2 rfl
  have htake : (bytesEq ++ (d1 ++ '-' :: d2)).take 6 = bytesEq := List.take_left' rfl
  have hdrop : (bytesEq ++ (d1 ++ '-' :: d2)).drop 6 = d1 ++ '-' :: d2 := List.drop_left' rfl
  unfold parseRange
  simp only [hlow, stripBy_of_forall_false fun c hc => (hall c hc).1]
  rw [if_neg (by rw [htake]; exact fun h => h rfl), if_neg hnc, hdrop,
    splitDash_append_dash (allDigits_no_dash h1), splitDash_of_no_dash (allDigits_no_dash h2)]
  rfl

theorem parseRange_denotes {pre d1 d2 : List Char} {sp : Spec}
    (hpre : lower pre = bytesEq) (hden : Denotes d1 d2 sp)
    (hl1 : d1.length ≤ lim) (hl2 : d2.length ≤ lim) :
    parseRange lim (pre ++ d1 ++ '-' :: d2) = some (.ofSpec sp) := by
  cases hden with
  | firstLast h1 h2 =>
    rw [parseRange_canonical_split hpre h1.2 h2.2, if_neg h1.1, pyInt_of_length_le h1 hl1]
    simp only [if_neg h2.1, pyInt_of_length_le h2 hl2, Option.map_some, Parsed.ofSpec]
  | fromFirst h1 =>
    rw [parseRange_canonical_split hpre h1.2 allDigits_nil, if_neg h1.1, pyInt_of_length_le h1 hl1]
    simp only [if_true, Parsed.ofSpec]
  | suffix h2 =>
    rw [parseRange_canonical_split hpre allDigits_nil h2.2, if_pos rfl, pyInt_of_length_le h2 hl2]
    simp only [Option.map_some, Parsed.ofSpec]

theorem startStop_served {sp : Spec} {len : Nat} (h : sp.Served len) :
    startStop (.ofSpec sp) len = (((sp.bounds len).1 : Int), ((sp.bounds len).2 : Int)) := by
  cases sp <;>
    simp only [Spec.Served, Parsed.ofSpec, startStop, Spec.bounds, Prod.mk.injEq, true_and] at h ⊢ <;> omega

theorem startStop_not_served {sp : Spec} {len : Nat} (h : ¬ sp.Served len) :
    0 ≤ (startStop (.ofSpec sp) len).1 ∧ -1 ≤ (startStop (.ofSpec sp) len).2 ∧
      (startStop (.ofSpec sp) len).2 < (startStop (.ofSpec sp) len).1 := by
  cases sp <;> simp only [Spec.Served, Parsed.ofSpec, startStop, Spec.bounds] at h ⊢ <;> omega

theorem intRepr_ofNat (n : Nat) : intRepr (n : Int) = natRepr n := rfl

theorem intRepr_nonneg {i : Int} (h : 0 ≤ i) : intRepr i = natRepr i.toNat := by
  cases i with
  | ofNat n => rfl
  | negSucc n => omega

theorem crSatisfied_nat (s e len : Nat) : crSatisfied (s : Int) (e : Int) len = crText s e len := rfl

theorem pyIndex_natCast (len n : Nat) : pyIndex len (n : Int) = min n len := by
  unfold pyIndex
  rw [if_neg (Int.not_lt.mpr (Int.natCast_nonneg n))]
  split <;> omega

/-- `drop`/`take` absorb the clamping of both indices to the length -/
theorem pySlice_natCast (data : List α) (lo hi : Nat) :
    pySlice data lo hi = (data.drop lo).take (hi - lo) := by
  unfold pySlice
  rw [pyIndex_natCast, pyIndex_natCast, ← List.drop_take, ← List.take_eq_take_min, ← List.drop_take,
    List.drop_eq_drop_iff, List.length_take, Nat.min_assoc, Nat.min_eq_right (Nat.min_le_right hi _)]

theorem fileRead_natCast (file : List α) (start n : Nat) :
    fileRead file start n = (file.drop start).take n := by
  unfold fileRead
  rw [if_neg (Int.not_lt.mpr (Int.natCast_nonneg n)), Int.toNat_natCast]

theorem consumers_unparsed {h : List Char} (data : List α)
    (hp : parseRange lim h = none) :
    segmentResponse lim (some h) data = badResp ∧ onDemandResponse lim (some h) data = badResp := by
  simp only [segmentResponse, segmentResponseWith, onDemandResponse, onDemandResponseWith,
    getHttpRangeWith, hp, badResp, and_self]

theorem consumers_ofSpec {h : List Char} {sp : Spec} (data : List α)
    (hp : parseRange lim h = some (.ofSpec sp)) :
    segmentResponse lim (some h) data = specResponse sp data ∧
    onDemandResponse lim (some h) data = specResponse sp data := by
  simp only [segmentResponse, segmentResponseWith, onDemandResponse, onDemandResponseWith,
    getHttpRangeWith, hp]
  by_cases hc : sp.Served data.length
  · -- 206: `data[s : e+1]` and the read of `1 + e − s` bytes at `s` are both `slice data s e`
    have hss := startStop_served hc
    rw [specResponse_of_served hc]
    obtain ⟨hse, -⟩ := hc
    generalize (sp.bounds data.length).1 = s at *
    generalize (sp.bounds data.length).2 = e at *
    have hd : decideRange (.ofSpec sp) data.length
        = ⟨s, e, 206, crSatisfied s e data.length⟩ := by
      unfold decideRange
      rw [hss]
      exact if_neg (Int.not_lt.mpr (Int.ofNat_le.mpr hse))
    have hseg : pySlice data (s : Int) ((e : Int) + 1) = slice data s e := by
      rw [← Int.natCast_succ, pySlice_natCast, slice, show e + 1 - s = e - s + 1 by omega]
    have hond : fileRead data (s : Int).toNat (1 + (e : Int) - s) = slice data s e := by
      rw [show 1 + (e : Int) - s = ((e - s + 1 : Nat) : Int) by omega, Int.toNat_natCast,
        fileRead_natCast, slice]
    simp only [hd, crSatisfied_nat, hseg, hond, if_true, Int.not_lt.mpr (Int.natCast_nonneg s),
      if_false, okResp, and_self]
  · -- 416: `stop + 1 ≤ start`, so the slice is empty; the on-demand consumer reads only on 206
    obtain ⟨h0, h1, hlt⟩ := startStop_not_served hc
    have hd : decideRange (.ofSpec sp) data.length = ⟨(startStop (.ofSpec sp) data.length).1,
        (startStop (.ofSpec sp) data.length).2, 416, crUnsatisfied data.length⟩ := by
      unfold decideRange
      exact if_pos hlt
    obtain ⟨a, ha⟩ := Int.eq_ofNat_of_zero_le h0
    obtain ⟨b, hb⟩ := Int.eq_ofNat_of_zero_le (by omega : 0 ≤ (startStop (.ofSpec sp) data.length).2 + 1)
    have hseg : pySlice data (startStop (.ofSpec sp) data.length).1
        ((startStop (.ofSpec sp) data.length).2 + 1) = [] := by
      rw [ha, hb, pySlice_natCast, Nat.sub_eq_zero_of_le (by omega : b ≤ a), List.take_zero]
    simp only [hd, specResponse_of_not_served hc, hseg, unsatResp, true_and]
    exact if_neg (by decide)

theorem natRepr_injective {a b : Nat} (h : natRepr a = natRepr b) : a = b := by
  rw [← decVal_natRepr a, ← decVal_natRepr b, h]

theorem digits_sep_unique {sep : Char} (hsep : sep.isDigit = false) {a b x y : List Char}
    (ha : AllDigits a) (hb : AllDigits b) (h : a ++ sep :: x = b ++ sep :: y) : a = b ∧ x = y := by
  have ht := congrArg (List.takeWhile Char.isDigit) h
  have hd := congrArg (List.dropWhile Char.isDigit) h
  have hs : ¬ sep.isDigit = true := by simp [hsep]
  rw [List.takeWhile_append_of_pos ha, List.takeWhile_append_of_pos hb, List.takeWhile_cons_of_neg hs,
    List.takeWhile_cons_of_neg hs, List.append_nil, List.append_nil] at ht
  rw [List.dropWhile_append_of_pos ha, List.dropWhile_append_of_pos hb, List.dropWhile_cons_of_neg hs,
    List.dropWhile_cons_of_neg hs] at hd
  exact ⟨ht, (List.cons.inj hd).2⟩

/-- after `bytes ` a satisfied-range text goes on with a digit -/
theorem crText_ne {c : Char} (hc : c.isDigit = false) (s e len : Nat) (t : List Char) :
    crText s e len ≠ 'b' :: 'y' :: 't' :: 'e' :: 's' :: ' ' :: c :: t := by
  obtain ⟨d, ds, hs⟩ := List.exists_cons_of_ne_nil (natRepr_isDigits s).1
  have hd : d.isDigit = true := (natRepr_isDigits s).2 d (hs ▸ List.mem_cons_self)
  intro h
  simp only [crText, hs, List.cons_append, List.nil_append, List.cons.injEq, true_and] at h
  exact isDigit_ne hd hc h.1

end DashLive.Range

#print axioms DashLive.Range.natRepr_isDigits
#print axioms DashLive.Range.natRepr_injective
#print axioms DashLive.Range.digits_sep_unique
