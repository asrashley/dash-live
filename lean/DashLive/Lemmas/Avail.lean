import DashLive.Lemmas.Segments
import Mathlib.Tactic.Linarith
import Mathlib.Tactic.Ring
/-! Arithmetic behind the availability gate (`calculate_first_and_last_segment_number`,
`calculate_segment_number_and_time`): `timedelta_to_timecode` is an exact floor (`tdToTc_eq`), the float
conversion a parameter specified by `ConvSpec`; `live_gates_pass` reduces "the live handler accepts" to
two time bounds in ticks·µs and two quotient bounds, which the C01 theorems establish. -/
namespace DashLive.Segments

/-- `timedelta_to_timecode` is the exact floor `⌊us·ts/10⁶⌋` -/
theorem tdToTc_eq (us ts : Nat) : tdToTc us ts = us * ts / 1000000 := by
  unfold tdToTc
  simp only
  have h1 := Nat.div_add_mod us 86400000000
  have h2 := Nat.div_add_mod (us % 86400000000) 1000000
  generalize us / 86400000000 = days at *
  generalize us % 86400000000 = rem at *
  generalize rem / 1000000 = s at *
  generalize rem % 1000000 = u at *
  have e : us * ts = ts * u + (ts * days * 86400 + ts * s) * 1000000 := by
    rw [← h1, ← h2]; ring
  rw [e, Nat.add_mul_div_right _ _ (by norm_num : 0 < 1000000)]
  omega

theorem tdToTc_mono (ts : Nat) {a b : Nat} (h : a ≤ b) : tdToTc a ts ≤ tdToTc b ts := by
  rw [tdToTc_eq, tdToTc_eq]
  exact Nat.div_le_div_right (Nat.mul_le_mul_right ts h)

theorem scaleTd_eq (us ts sd : Nat) : scaleTd us ts sd = tdToTc us ts / sd := rfl

theorem tdToTc_mul_le (us ts : Nat) : tdToTc us ts * 1000000 ≤ us * ts := by
  rw [tdToTc_eq]; exact Nat.div_mul_le_self _ _

theorem lt_tdToTc_succ_mul (us ts : Nat) : us * ts < (tdToTc us ts + 1) * 1000000 := by
  rw [tdToTc_eq]; omega

theorem le_tdToTc {t us ts : Nat} (h : t * 1000000 ≤ us * ts) : t ≤ tdToTc us ts := by
  rw [tdToTc_eq, Nat.le_div_iff_mul_le (by omega)]; exact h

theorem div_add_le (x a b c : Nat) (hc : 0 < c) (h : x ≤ a + c + b) :
    x / c ≤ a / c + b / c + 2 := by
  have a2 := Nat.lt_div_mul_add (a := a) hc
  have b2 := Nat.lt_div_mul_add (a := b) hc
  have : x / c < a / c + b / c + 3 := by
    rw [Nat.div_lt_iff_lt_mul hc, Nat.add_mul, Nat.add_mul]; omega
  omega

/-- `timescale_to_timedelta` specification: the float result, in µs, is within one
microsecond of the exact rational `tc·10⁶/ts` (validated against the implementation for
timecodes below 2⁵³). -/
def ConvSpec (conv : Nat → Int) (ts : Nat) : Prop :=
  ∀ tc : Nat, (tc : Int) * 1000000 - ts ≤ conv tc * ts ∧ conv tc * ts ≤ (tc : Int) * 1000000 + ts

/-- the `first..last` gate for number `num = sn + q`: `last = sn + T/sd` and
`first = max sn (last − 1 − ts·tsbd/sd − 1)` with `T = tdToTc E ts` -/
theorem firstLastLive_gate {ts sd sn : Nat} {w : Win} {q : Nat} {num : Int} (hnum : num = (q : Int) + sn)
    (h1 : q ≤ tdToTc w.E ts / sd) (h2 : tdToTc w.E ts / sd ≤ q + ts * w.tsbd / sd + 2) :
    ¬ (num < (firstLastLive ts sd sn w).1 ∨ num > (firstLastLive ts sd sn w).2) := by
  simp only [firstLastLive, scaleTd_eq, hnum]
  omega

/-- the tests of the live handler pass for timecode `tc` and number `sn + q` once the two time bounds
hold in ticks·µs (the one place where `ts` is divided out) and the quotient lies in the gate -/
theorem live_gates_pass {conv : Nat → Int} {durs : List Nat} {ts sd sn : Nat} {w : Win} {tc q : Nat}
    {num : Int} (hnum : num = (q : Int) + sn)
    (hconv : ConvSpec conv ts) (hts : 0 < ts) (hn : 2 ≤ durs.length)
    (hold : (w.F - w.leeway) * ts ≤ tc * 1000000 - ts) (hnew : (tc : Int) * 1000000 + ts ≤ w.E * ts)
    (h1 : q ≤ tdToTc w.E ts / sd) (h2 : tdToTc w.E ts / sd ≤ q + ts * w.tsbd / sd + 2) :
    ¬ ((conv tc < w.F - w.leeway ∨ conv tc > w.E) ∨ durs.length < 2 ∨
      (num < (firstLastLive ts sd sn w).1 ∨ num > (firstLastLive ts sd sn w).2)) := by
  have hts' : (0 : Int) < ts := Int.natCast_pos.mpr hts
  have old : w.F - w.leeway ≤ conv tc :=
    Int.le_of_mul_le_mul_right (Int.le_trans hold (hconv tc).1) hts'
  have new : conv tc ≤ w.E := Int.le_of_mul_le_mul_right (Int.le_trans (hconv tc).2 hnew) hts'
  exact not_or.mpr ⟨not_or.mpr ⟨Int.not_lt.mpr old, Int.not_lt.mpr new⟩,
    not_or.mpr ⟨Nat.not_lt.mpr hn, firstLastLive_gate hnum h1 h2⟩⟩

def maxDur (durs : List Nat) : Nat := durs.foldl max 0

theorem le_foldl_max (l : List Nat) (a x : Nat) (h : x ≤ a ∨ x ∈ l) : x ≤ l.foldl max a := by
  induction l generalizing a with
  | nil => simpa using h
  | cons y ys ih =>
    refine ih _ ?_
    rcases h with h | h
    · exact Or.inl (Nat.le_trans h (Nat.le_max_left _ _))
    · rcases List.mem_cons.mp h with rfl | h
      · exact Or.inl (Nat.le_max_right _ _)
      · exact Or.inr h

theorem durAt_le_maxDur (durs : List Nat) (k : Nat) : durAt durs k ≤ maxDur durs := by
  unfold maxDur
  by_cases h : k < durs.length
  · rw [durAt_of_lt h]
    exact le_foldl_max durs 0 _ (Or.inr (List.getElem_mem h))
  · unfold durAt; simp [List.getD, h]

end DashLive.Segments
