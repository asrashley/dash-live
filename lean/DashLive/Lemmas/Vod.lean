import DashLive.Lemmas.Timeline
import DashLive.Model.Indexing
/-! Lemmas for C06: the VOD timeline enumerates the stored segments exactly once; indexing tiles a
contiguous box sequence; what the `moof` loop of `Representation.load` records (`loadStep`). -/
namespace DashLive.Segments

theorem advDur_zero (durs : List Nat) (m : Nat) : advDur durs 0 m = (durAt durs m : Int) := by
  unfold advDur; split <;> simp

/-- the VOD loop from stored segment `j` (at its decode position `P_j`) walks the remaining stored
segments once and stops at `Σ durs`, whatever `m` the wrap after the last segment leaves -/
theorem rawLoop_vod (durs : List Nat) (hpos : PositiveDurs durs) :
    ∀ fuel j m, j ≤ durs.length → durs.length - j ≤ fuel → (j < durs.length → m = j) →
      accumulate (prefixSum durs j : Int) (rawLoop durs 0 (durs.sum : Int) fuel (prefixSum durs j : Int) m)
        = (List.range' j (durs.length - j)).map
            (fun i => ((prefixSum durs i : Int), (durAt durs i : Int)))
  | 0, j, m, _, hf, _ => by rw [Nat.sub_eq_zero_of_le (by omega)]; rfl
  | f+1, j, m, hj, hf, hm => by
    unfold rawLoop
    by_cases hlt : j < durs.length
    · obtain rfl := hm hlt
      have hd := hpos m hlt
      have hps := prefixSum_succ hlt
      have hle := prefixSum_le_sum durs (m + 1)
      have := rawLoop_vod durs hpos f (m + 1) (nextM durs.length m) hlt (by omega)
        (fun h => by unfold nextM; split <;> omega)
      rw [hps, Int.natCast_add] at this
      rw [if_pos (by omega), advDur_zero, accumulate, this,
        show durs.length - m = durs.length - (m + 1) + 1 by omega, List.range'_succ, List.map_cons]
    · obtain rfl : j = durs.length := by omega
      rw [prefixSum_length, if_neg (Int.lt_irrefl _), Nat.sub_self]; rfl

/-- stored durations telescope to a difference of decode positions -/
theorem sum_durAt (durs : List Nat) : ∀ k j, j + k ≤ durs.length →
    ((List.range' j k).map (fun i => (durAt durs i : Int))).sum
      = (prefixSum durs (j + k) : Int) - prefixSum durs j
  | 0, j, _ => by simp
  | k+1, j, h => by
    rw [List.range'_succ, List.map_cons, List.sum_cons, sum_durAt durs k (j + 1) (by omega),
      prefixSum_succ (show j < durs.length by omega), Nat.add_right_comm j 1 k, Nat.add_assoc j k 1]
    omega

end DashLive.Segments

namespace DashLive.Indexing

/-- boxes laid out back to back from `a` to `b` -/
def BoxTile : List Box → Nat → Nat → Prop
  | [], a, b => a = b
  | x :: rest, a, b => x.pos = a ∧ BoxTile rest (x.pos + x.size) b

/-- segments laid out back to back from `a` to `b` (file order) -/
def Tile : List Seg → Nat → Nat → Prop
  | [], a, b => a = b
  | s :: rest, a, b => s.pos = a ∧ Tile rest (s.pos + s.size) b

/-- the same for the accumulator (most recent first) -/
def RevTile : List Seg → Nat → Nat → Prop
  | [], a, b => a = b
  | s :: rest, a, b => s.pos + s.size = b ∧ RevTile rest a s.pos

theorem tile_append {l : List Seg} {a m b : Nat} {s : Seg} (h : Tile l a m) (hs : s.pos = m)
    (he : s.pos + s.size = b) : Tile (l ++ [s]) a b := by
  induction l generalizing a with
  | nil => simp only [Tile] at h; simp only [List.nil_append, Tile]; exact ⟨by omega, he⟩
  | cons x xs ih => simp only [Tile, List.cons_append] at *; exact ⟨h.1, ih h.2⟩

theorem revTile_reverse {acc : List Seg} {a b : Nat} (h : RevTile acc a b) : Tile acc.reverse a b := by
  induction acc generalizing b with
  | nil => simpa [RevTile, Tile] using h
  | cons s rest ih =>
    simp only [RevTile] at h
    rw [List.reverse_cons]
    exact tile_append (ih h.2) rfl h.1

/-- every box is one the indexing loop knows how to attribute -/
def Known (boxes : List Box) : Prop := ∀ b ∈ boxes, b.kind ≠ .other

theorem kind_opens_or_extends {k : Kind} (hk : k ≠ .other) :
    (k == .ftyp || k == .moof) = true ∨ extends_ k = true := by
  cases k <;> simp_all [extends_]

theorem step_tile {acc : List Seg} {a m : Nat} {b : Box} (hacc : RevTile acc a m) (hne : acc ≠ [])
    (hb : b.pos = m) (hk : b.kind ≠ .other) :
    RevTile (step acc b) a (b.pos + b.size) ∧ step acc b ≠ [] := by
  unfold step
  split
  · exact ⟨⟨rfl, hb ▸ hacc⟩, List.cons_ne_nil _ _⟩
  · rename_i h1
    rw [if_pos ((kind_opens_or_extends hk).resolve_left h1)]
    cases acc with
    | nil => exact absurd rfl hne
    | cons last rest =>
      simp only [RevTile] at hacc ⊢
      exact ⟨⟨by omega, hacc.2⟩, List.cons_ne_nil _ _⟩

theorem foldl_tile (boxes : List Box) :
    ∀ (acc : List Seg) (a m e : Nat), RevTile acc a m → acc ≠ [] → BoxTile boxes m e → Known boxes →
      RevTile (boxes.foldl step acc) a e ∧ boxes.foldl step acc ≠ [] := by
  induction boxes with
  | nil => intro acc a m e h hne hb _; simp only [BoxTile] at hb; subst hb; exact ⟨h, hne⟩
  | cons b rest ih =>
    intro acc a m e h hne hb hk
    simp only [BoxTile] at hb
    simp only [List.foldl_cons]
    obtain ⟨h1, h2⟩ := step_tile h hne hb.1 (hk b (List.mem_cons_self))
    exact ih _ a _ e h1 h2 hb.2 (fun x hx => hk x (List.mem_cons_of_mem _ hx))

theorem step_pos (acc : List Seg) (b : Box) :
    ∀ s ∈ step acc b,
      ((b.kind = .ftyp ∨ b.kind = .moof) ∧ s.pos = b.pos) ∨ ∃ s' ∈ acc, s.pos = s'.pos := by
  intro s hs
  unfold step at hs
  split at hs
  · rename_i h1
    rcases List.mem_cons.mp hs with rfl | hs
    · exact Or.inl ⟨by simpa using h1, rfl⟩
    · exact Or.inr ⟨s, hs, rfl⟩
  · split at hs
    · cases acc with
      | nil => cases hs
      | cons last rest =>
        rcases List.mem_cons.mp hs with rfl | hs
        · exact Or.inr ⟨last, List.mem_cons_self, rfl⟩
        · exact Or.inr ⟨s, List.mem_cons_of_mem _ hs, rfl⟩
    · exact Or.inr ⟨s, hs, rfl⟩

theorem foldl_loadStep_durs (dflt : Nat) (frags : List Frag) (s : LoadSt) :
    (frags.foldl (loadStep dflt) s).durs = s.durs ++ frags.map (fragDur dflt) := by
  induction frags generalizing s with
  | nil => simp
  | cons f fs ih => simp [List.foldl_cons, ih, loadStep]

/-- the first `mfhd.sequence_number` and the first decode time, once recorded, stay -/
theorem foldl_loadStep_first (dflt : Nat) (frags : List Frag) (s : LoadSt) :
    (∀ k, s.startNumber = some k → (frags.foldl (loadStep dflt) s).startNumber = some k) ∧
    (∀ k, s.repStart = some k → (frags.foldl (loadStep dflt) s).repStart = some k) := by
  induction frags generalizing s with
  | nil => exact ⟨fun _ h => h, fun _ h => h⟩
  | cons f fs ih =>
    exact ⟨fun k h => (ih _).1 k (by simp [loadStep, h]), fun k h => (ih _).2 k (by simp [loadStep, h])⟩

/-- a file whose `tfdt` boxes are consistent with its sample durations: fragment `k`
carries `t0 + Σ_{i<k} dur_i` -/
def ConsistentFrom (dflt : Nat) : Nat → List Frag → Prop
  | _, [] => True
  | t, f :: fs => f.tfdt = some t ∧ ConsistentFrom dflt (t + fragDur dflt f) fs

/-- for a consistent file the loop's `segment_start_time` after the last fragment is the decode time
of that fragment -/
theorem foldl_loadStep_segStart (dflt : Nat) :
    ∀ (frags : List Frag) (s : LoadSt) (t : Nat), frags ≠ [] → ConsistentFrom dflt t frags →
      (frags.foldl (loadStep dflt) s).segStart = t + ((frags.dropLast).map (fragDur dflt)).sum := by
  intro frags
  induction frags with
  | nil => intro s t h; exact absurd rfl h
  | cons f fs ih =>
    intro s t _ hc
    simp only [ConsistentFrom] at hc
    simp only [List.foldl_cons]
    cases fs with
    | nil => simp [loadStep, hc.1]
    | cons g gs =>
      rw [ih (loadStep dflt s f) (t + fragDur dflt f) (by simp) hc.2]
      simp only [List.dropLast_cons_cons, List.map_cons, List.sum_cons]
      omega

end DashLive.Indexing
