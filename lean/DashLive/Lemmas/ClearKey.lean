import DashLive.Model.ClearKey
import DashLive.Lemmas.Bytes
/-!
Lemmas about `Model/ClearKey.lean` for C11: the base64 alphabet, the sextet arithmetic,
`b64decode (b64encode b) = .ok b`, and the url-safe form led back to it (`b64urlEncode_eq`: the encoding
is `encBody b` with two characters renamed), whence the injectivity the licence handler's theorem needs;
`decodeAll` on canonical ids.
-/
namespace DashLive.ClearKey

theorem stdVal_stdChar : ∀ n, n < 64 → stdVal (stdChar n) = some n := by decide

/-- `=` (61) is where the padding scan of `b64decode` stops; the range `+`…`z` without `<` (60) and
`>` (62) is what `Lemmas/WrmHeader.lean` needs of base64 text inside XML -/
theorem stdChar_bounds : ∀ n, n < 64 →
    43 ≤ stdChar n ∧ stdChar n ≤ 122 ∧ stdChar n ≠ 60 ∧ stdChar n ≠ 61 ∧ stdChar n ≠ 62 := by decide

theorem sextets_lt (a b c : UInt8) :
    a.toNat / 4 < 64 ∧ a.toNat % 4 * 16 + b.toNat / 16 < 64 ∧ b.toNat % 16 * 4 + c.toNat / 64 < 64
      ∧ c.toNat % 64 < 64 :=
  ⟨Nat.div_lt_of_lt_mul a.toNat_lt,
    Bytes.pack_lt (Nat.mod_lt _ (by decide)) (Nat.div_lt_of_lt_mul b.toNat_lt),
    Bytes.pack_lt (Nat.mod_lt _ (by decide)) (Nat.div_lt_of_lt_mul c.toNat_lt), Nat.mod_lt _ (by decide)⟩

/-- the final groups of one and two bytes are the instances `b = c = 0` and `c = 0` -/
theorem bytes_of_sextets (a b c : UInt8) :
    UInt8.ofNat (a.toNat / 4 * 4 + (a.toNat % 4 * 16 + b.toNat / 16) / 16) = a ∧
    UInt8.ofNat ((a.toNat % 4 * 16 + b.toNat / 16) % 16 * 16 + (b.toNat % 16 * 4 + c.toNat / 64) / 4) = b ∧
    UInt8.ofNat ((b.toNat % 16 * 4 + c.toNat / 64) % 4 * 64 + c.toNat % 64) = c := by
  have hb : b.toNat / 16 < 16 := Nat.div_lt_of_lt_mul b.toNat_lt
  have hc : c.toNat / 64 < 4 := Nat.div_lt_of_lt_mul c.toNat_lt
  rw [Bytes.field_div _ _ _ hb, Bytes.field_mod _ _ _ hb, Bytes.field_div _ _ _ hc,
    Bytes.field_mod _ _ _ hc, Nat.div_add_mod', Nat.div_add_mod',
    Nat.div_add_mod']
  exact ⟨UInt8.ofNat_toNat, UInt8.ofNat_toNat, UInt8.ofNat_toNat⟩

def IsStd (c : Nat) : Prop := ∃ n, n < 64 ∧ c = stdChar n

theorem encBody_std : ∀ b : Bytes, ∀ c ∈ encBody b, IsStd c
  | [] => nofun
  | [a] => by
    obtain ⟨h1, h2, -, -⟩ := sextets_lt a 0 0
    simp only [encBody, List.forall_mem_cons, List.not_mem_nil, false_imp_iff, implies_true, and_true]
    exact ⟨⟨_, h1, rfl⟩, ⟨_, h2, rfl⟩⟩
  | [a, b] => by
    obtain ⟨h1, h2, h3, -⟩ := sextets_lt a b 0
    simp only [encBody, List.forall_mem_cons, List.not_mem_nil, false_imp_iff, implies_true, and_true]
    exact ⟨⟨_, h1, rfl⟩, ⟨_, h2, rfl⟩, ⟨_, h3, rfl⟩⟩
  | a :: b :: c :: rest => by
    obtain ⟨h1, h2, h3, h4⟩ := sextets_lt a b c
    simp only [encBody, List.forall_mem_cons]
    exact ⟨⟨_, h1, rfl⟩, ⟨_, h2, rfl⟩, ⟨_, h3, rfl⟩, ⟨_, h4, rfl⟩, encBody_std rest⟩

theorem decBody_encBody : ∀ b : Bytes, decBody (encBody b) = some b
  | [] => rfl
  | [a] => by
    obtain ⟨h1, h2, -, -⟩ := sextets_lt a 0 0
    obtain ⟨e1, -, -⟩ := bytes_of_sextets a 0 0
    simp only [UInt8.toNat_zero, Nat.zero_div, Nat.add_zero] at h2 e1
    simp only [encBody, decBody, stdVal_stdChar _ h1, stdVal_stdChar _ h2, e1]
  | [a, b] => by
    obtain ⟨h1, h2, h3, -⟩ := sextets_lt a b 0
    obtain ⟨e1, e2, -⟩ := bytes_of_sextets a b 0
    simp only [UInt8.toNat_zero, Nat.zero_div, Nat.add_zero] at h3 e2
    simp only [encBody, decBody, stdVal_stdChar _ h1, stdVal_stdChar _ h2, stdVal_stdChar _ h3, e1, e2]
  | a :: b :: c :: rest => by
    obtain ⟨h1, h2, h3, h4⟩ := sextets_lt a b c
    obtain ⟨e1, e2, e3⟩ := bytes_of_sextets a b c
    simp only [encBody, decBody, stdVal_stdChar _ h1, stdVal_stdChar _ h2, stdVal_stdChar _ h3,
      stdVal_stdChar _ h4, decBody_encBody rest, e1, e2, e3]

theorem encBody_length : ∀ b : Bytes,
    (encBody b).length = 4 * (b.length / 3) + (if b.length % 3 = 0 then 0 else b.length % 3 + 1)
  | [] => rfl
  | [_] => by simp [encBody]
  | [_, _] => by simp [encBody]
  | a :: b :: c :: rest => by
    simp only [encBody, List.length_cons, encBody_length rest, Nat.add_assoc, Nat.reduceAdd,
      Nat.add_div_right _ (by decide : 0 < 3), Nat.add_mod_right]
    omega

theorem pad_cases (b : Bytes) :
    (encBody b).length % 4 = 0 ∧ padOf b.length = [] ∨
    (encBody b).length % 4 = 2 ∧ padOf b.length = [61, 61] ∨
    (encBody b).length % 4 = 3 ∧ padOf b.length = [61] := by
  rw [encBody_length, padOf]
  have : b.length % 3 = 0 ∨ b.length % 3 = 1 ∨ b.length % 3 = 2 := by omega
  rcases this with h | h | h <;> simp [h]

/-- what two `str.replace` calls in a row, `o₁`→`n₁` then `o₂`→`n₂`, do to one character -/
def rename2 (o₁ n₁ o₂ n₂ c : Nat) : Nat :=
  if (if c = o₁ then n₁ else c) = o₂ then n₂ else (if c = o₁ then n₁ else c)

/-- `+`→`-` then `/`→`_` -/
abbrev rEnc := rename2 43 45 47 95
/-- `-`→`+` then `_`→`/` -/
abbrev rDec := rename2 45 43 95 47

theorem replaceChar_replaceChar (o₁ n₁ o₂ n₂ : Nat) (t : Text) :
    replaceChar o₂ n₂ (replaceChar o₁ n₁ t) = t.map (rename2 o₁ n₁ o₂ n₂) := by
  simp [replaceChar, rename2, List.map_map, Function.comp_def]

theorem rDec_rEnc {c : Nat} (h : IsStd c) : rDec (rEnc c) = c := by
  obtain ⟨n, hn, rfl⟩ := h
  revert n
  decide

theorem rEnc_ne {c : Nat} (h : IsStd c) : rEnc c ≠ 43 ∧ rEnc c ≠ 47 ∧ rEnc c ≠ 61 := by
  obtain ⟨n, hn, rfl⟩ := h
  revert n
  decide

theorem b64urlEncode_eq (b : Bytes) : b64urlEncode b = (encBody b).map rEnc := by
  have hpad : ((padOf b.length).map rEnc).filter (· ≠ 61) = [] := by
    rcases pad_cases b with ⟨_, h⟩ | ⟨_, h⟩ | ⟨_, h⟩ <;> rw [h] <;> rfl
  unfold b64urlEncode b64encode
  rw [replaceChar_replaceChar, List.map_append, List.filter_append, hpad, List.append_nil]
  apply List.filter_eq_self.mpr
  intro c hc
  obtain ⟨x, hx, rfl⟩ := List.mem_map.mp hc
  obtain ⟨-, -, h61⟩ := rEnc_ne (encBody_std b x hx)
  simpa using h61

theorem b64urlEncode_chars (b : Bytes) : ∀ c ∈ b64urlEncode b, c ≠ 43 ∧ c ≠ 47 ∧ c ≠ 61 := by
  intro c hc
  rw [b64urlEncode_eq] at hc
  obtain ⟨x, hx, rfl⟩ := List.mem_map.mp hc
  exact rEnc_ne (encBody_std b x hx)

theorem b64decode_b64encode (b : Bytes) : b64decode (b64encode b) = .ok b := by
  -- no alphabet character is `=`, so the scan for `=` splits the text exactly into `encBody b` and the padding
  have hne : ∀ c ∈ encBody b, decide (c ≠ 61) = true := by
    intro c hc
    obtain ⟨n, hn, rfl⟩ := encBody_std b c hc
    obtain ⟨-, -, -, h61, -⟩ := stdChar_bounds n hn
    exact decide_eq_true h61
  have hval : ∀ c ∈ encBody b, ¬ stdVal c = none := by
    intro c hc
    obtain ⟨n, hn, rfl⟩ := encBody_std b c hc
    simp [stdVal_stdChar n hn]
  unfold b64decode b64encode
  simp only [List.takeWhile_append_of_pos hne, List.dropWhile_append_of_pos hne, List.length_append]
  -- on each of the three paddings the guards of `b64decode` are computed
  rcases pad_cases b with ⟨hl, hp⟩ | ⟨hl, hp⟩ | ⟨hl, hp⟩ <;> rw [hp] <;>
    simpa [decBody_encBody, Nat.add_mod, hl] using hval

theorem b64urlDecode_b64urlEncode (b : Bytes) : b64urlDecode (b64urlEncode b) = .ok b := by
  have hno : (b64urlEncode b).any (· = 61) = false :=
    List.any_eq_false.mpr fun c hc => by
      obtain ⟨-, -, h61⟩ := b64urlEncode_chars b c hc
      simpa using h61
  have hmap : ((encBody b).map rEnc).map rDec = encBody b := by
    rw [List.map_map]
    exact (List.map_congr_left fun c hc => rDec_rEnc (encBody_std b c hc)).trans (List.map_id _)
  -- undoing the renaming and re-padding to a multiple of four gives `b64encode b` back
  rw [← b64decode_b64encode b, b64urlDecode, hno]
  simp only [Bool.false_eq_true, if_false]
  rw [b64urlEncode_eq, replaceChar_replaceChar, hmap, b64encode]
  rcases pad_cases b with ⟨hl, hp⟩ | ⟨hl, hp⟩ | ⟨hl, hp⟩ <;> simp [hl, hp]

theorem b64urlEncode_injective {a b : Bytes} (h : b64urlEncode a = b64urlEncode b) : a = b := by
  have ha := b64urlDecode_b64urlEncode a
  rw [h, b64urlDecode_b64urlEncode b] at ha
  injection ha with ha
  exact ha.symm

theorem decodeAll_encoded_append (pre : List Bytes) (rest : List JId) :
    decodeAll (pre.map (fun k => .str (b64urlEncode k)) ++ rest) = (decodeAll rest).map (pre ++ ·) := by
  induction pre with
  | nil => show decodeAll rest = _; cases decodeAll rest <;> rfl
  | cons k ks ih =>
    simp only [List.map_cons, List.cons_append, decodeAll, b64urlDecode_b64urlEncode, ih]
    cases decodeAll rest <;> rfl

end DashLive.ClearKey
