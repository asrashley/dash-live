import DashLive.Model.Box
import DashLive.Lemmas.Boxes.Basic
import DashLive.Lemmas.Boxes.Frag
import DashLive.Lemmas.Boxes.Cenc
import DashLive.Lemmas.Boxes.Index
import DashLive.Lemmas.Boxes.Audio
/-! Both round trips of the box header (`Model/Boxes/Header.lean`) and parse ∘ encode of the payload
dispatch (`decPayload`, `Model/Box.lean`). -/
namespace DashLive.Boxes
open DashLive.Bytes

theorem uuidCC_length : uuidCC.length = 4 := rfl

theorem BoxType.cc_length (t : BoxType) (h : t.Wf) : t.cc.length = 4 := by
  cases t with
  | std cc => exact h.1
  | uuid id => rfl

theorem encHeader_length (t : BoxType) (l : Bool) (n : Nat) :
    (encHeader t l n).length = hdrLen t l := by
  cases l <;> simp [encHeader, hdrLen] <;> omega

theorem decHeaderType_enc (t : BoxType) (l e : Bool) (n : Nat) (rest : Bytes) (h : t.Wf) :
    decHeaderType t.cc l e n (t.ext ++ rest)
      = some ({ typ := t, large := l, toEnd := e, size := n }, rest) := by
  cases t with
  | std cc =>
    have : cc ≠ uuidCC := h.2
    simp [decHeaderType, BoxType.cc, BoxType.ext, this]
  | uuid id =>
    have : id.length = 16 := h
    simp only [decHeaderType, BoxType.cc, BoxType.ext, if_true, (take 16).dec_enc this,
      andThen_some]

theorem decHeader_encHeader (tail : Nat) (t : BoxType) (l : Bool) (n : Nat) (rest : Bytes)
    (ht : t.Wf) (hn : sizeOk l n) :
    decHeader tail (encHeader t l n ++ rest)
      = some ({ typ := t, large := l, toEnd := false, size := n }, rest) := by
  have hcc := BoxType.cc_length t ht
  cases l with
  | true =>
    simp only [sizeOk, if_true] at hn
    have hz : ¬ n = 0 := by omega
    simp only [decHeader, encHeader, if_true, List.append_assoc,
      u32.dec_enc (by decide : 1 < 4294967296), andThen_some, (take 4).dec_enc hcc,
      u64.dec_enc hn.2, hz, if_false, decHeaderType_enc t _ _ _ _ ht]
  | false =>
    simp only [sizeOk, Bool.false_eq_true, if_false] at hn
    have h1 : ¬ n = 1 := by omega
    have h0 : ¬ n = 0 := by omega
    simp only [decHeader, encHeader, Bool.false_eq_true, if_false, List.append_assoc,
      u32.dec_enc hn.2, andThen_some, (take 4).dec_enc hcc, h1, h0,
      decHeaderType_enc t _ _ _ _ ht]

theorem decHeaderType_spec {cc : Bytes} {l e : Bool} {n : Nat} {bs : Bytes} {y : Header × Bytes}
    (hcc : cc.length = 4) (hd : decHeaderType cc l e n bs = some y) :
    ∃ t r, t.Wf ∧ t.cc = cc ∧ t.ext ++ r = bs ∧
      y = ({ typ := t, large := l, toEnd := e, size := n }, r) := by
  unfold decHeaderType at hd
  split at hd
  · next hu =>
    exact (take 16).bind (R := fun bs y => ∃ t r, t.Wf ∧ t.cc = cc ∧ t.ext ++ r = bs ∧
        y = ({ typ := t, large := l, toEnd := e, size := n }, r))
      (fun id h3 => Codec.ret fun r => ⟨.uuid id, r, h3, hu.symm, rfl, rfl⟩) bs y hd
  · next hu =>
    cases hd
    exact ⟨.std cc, _, ⟨hcc, hu⟩, rfl, rfl, rfl⟩

/-- every accepted header with an explicit size is canonical: re-encoding it in
the form it had gives back the input -/
theorem decHeader_spec (tail : Nat) (bs : Bytes) : ∀ y, decHeader tail bs = some y →
    y.1.typ.Wf ∧
    (y.1.toEnd = false →
      sizeOk y.1.large y.1.size ∧ encHeader y.1.typ y.1.large y.1.size ++ y.2 = bs) ∧
    (y.1.toEnd = true → y.1.size = bs.length + tail ∧ y.1.large = false) := by
  unfold decHeader
  -- the to-end size mentions `bs`: once it has a name the goal is the `∀ bs y` that `Codec.bind` proves
  generalize bs.length + tail = n0
  revert bs
  refine u32.bind fun sz hsz => (take 4).bind fun cc hcc => ?_
  by_cases e1 : sz = 1
  · simp only [e1, if_true]
    refine u64.bind fun lsz hl r3 y hy => ?_
    split at hy
    · cases hy
    · obtain ⟨t, r, ht, rfl, rfl, rfl⟩ := decHeaderType_spec hcc hy
      exact ⟨ht, fun _ => ⟨by simp only [sizeOk, if_true]; omega,
        by simp only [encHeader, if_true, List.append_assoc]⟩, nofun⟩
  · simp only [e1, if_false]
    intro r2 y hy
    split at hy
    · obtain ⟨t, r, ht, rfl, rfl, rfl⟩ := decHeaderType_spec hcc hy
      exact ⟨ht, nofun, fun _ => ⟨rfl, rfl⟩⟩
    · obtain ⟨t, r, ht, rfl, rfl, rfl⟩ := decHeaderType_spec hcc hy
      exact ⟨ht, fun _ => ⟨by simp only [sizeOk, Bool.false_eq_true, if_false]; omega,
        by simp only [encHeader, Bool.false_eq_true, if_false, List.append_assoc]⟩, nofun⟩

theorem decPayload_encPayload (ctx : SencCtx) (k : Kind) (p : Payload) (h : PayloadWf ctx k p) :
    decPayload ctx k (encPayload p) = some p := by
  unfold PayloadWf at h
  -- one goal per alternative of `PayloadWf`, in its order; last the mixed pairs (`False`)
  split at h
  · exact congrArg (Option.map _) (decFtyp_encFtyp _ h)
  · exact congrArg (Option.map _) (Mfhd.codec.exact_dec_enc h)
  · exact congrArg (Option.map _) (Tfhd.codec.exact_dec_enc h)
  · exact congrArg (Option.map _) (Tfdt.codec.exact_dec_enc h)
  · exact congrArg (Option.map _) (Trun.codec.exact_dec_enc h)
  · exact congrArg (Option.map _) (Saiz.codec.exact_dec_enc h)
  · exact congrArg (Option.map _) (Saio.codec.exact_dec_enc h)
  · exact congrArg (Option.map _) (decSenc_encSenc _ _ h)
  · exact congrArg (Option.map _) (Tenc.codec.exact_dec_enc h)
  · exact congrArg (Option.map _) (Pssh.codec.exact_dec_enc h)
  · exact congrArg (Option.map _) (Mehd.codec.exact_dec_enc h)
  · exact congrArg (Option.map _) (Trex.codec.exact_dec_enc h)
  · exact congrArg (Option.map _) (decSidx_encSidx _ h)
  · exact congrArg (Option.map _) (decEmsg_encEmsg _ h)
  · exact congrArg (Option.map _) (decDec3_encDec3 _ h)
  · rfl
  · exact h.elim

theorem PayloadWf_not_container (ctx : SencCtx) (p : Payload) : ¬ PayloadWf ctx .container p := by
  cases p <;> exact id

end DashLive.Boxes
