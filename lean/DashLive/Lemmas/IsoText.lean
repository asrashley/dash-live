import DashLive.Model.IsoText
/-!
What the recognisers of `Model/IsoText.lean` read out of the texts its renderers write, and
the tick conversions as floor divisions; used by `Props/C19.lean` and, for the XSD lexical
forms of the same texts, by `Lemmas/XmlLex.lean`, `Props/C05.lean`, `Props/C07Dt.lean`.
-/
namespace DashLive.IsoText

def AllDigits (l : Text) : Prop := ∀ c ∈ l, c.isDigit = true

theorem allDigits_dec (n : Nat) : AllDigits (dec n) := fun _ hc =>
  Nat.isDigit_of_mem_toDigits (by decide) (by decide) hc

theorem dec_ne_nil (n : Nat) : dec n ≠ [] := Nat.toDigits_ne_nil

theorem num_dec (n : Nat) : num (dec n) = n := Nat.ofDigitChars_ten_toDigits

theorem allDigits_pad (k n : Nat) : AllDigits (pad k n) := fun c hc =>
  (List.mem_append.mp hc).elim (fun h => (List.mem_replicate.mp h).2 ▸ rfl) (allDigits_dec n c)

theorem pad_ne_nil (k n : Nat) : pad k n ≠ [] := by
  unfold pad
  intro h
  exact dec_ne_nil n (List.append_eq_nil_iff.mp h).2

theorem num_append (a b : Text) : num (a ++ b) = 10 ^ b.length * num a + num b := by
  unfold num
  rw [Nat.ofDigitChars_append, Nat.ofDigitChars_eq_ofDigitChars_zero]

theorem num_replicate_zero (k : Nat) : num (List.replicate k '0') = 0 := by
  unfold num; simp

theorem num_pad (k n : Nat) : num (pad k n) = n := by
  unfold pad
  rw [num_append, num_replicate_zero, num_dec]; simp

theorem length_pad {n k : Nat} (hk : 0 < k) (h : n < 10 ^ k) : (pad k n).length = k := by
  have : (dec n).length ≤ k := (Nat.length_toDigits_le_iff (by decide) hk).mpr h
  unfold pad
  rw [List.length_append, List.length_replicate]
  omega

theorem pad2_eq {n : Nat} (h : n < 100) : pad 2 n = [Nat.digitChar (n / 10), Nat.digitChar (n % 10)] := by
  unfold pad dec
  rw [Nat.toDigits_eq_if (by decide)]
  split
  next hlt => rw [Nat.div_eq_of_lt hlt, Nat.mod_eq_of_lt hlt]; rfl
  next => rw [Nat.toDigits_of_lt_base (by omega)]; rfl

section
variable {p term : Char → Bool} {ds : Text} (c : Char) (rest : Text)

theorem takeWhile_run (h : ∀ x ∈ ds, p x = true) (hc : p c = false) :
    (ds ++ c :: rest).takeWhile p = ds := by
  rw [List.takeWhile_append_of_pos h, List.takeWhile_cons_of_neg (by simp [hc])]; simp

theorem dropWhile_run (h : ∀ x ∈ ds, p x = true) (hc : p c = false) :
    (ds ++ c :: rest).dropWhile p = c :: rest := by
  rw [List.dropWhile_append_of_pos h, List.dropWhile_cons_of_neg (by simp [hc])]

theorem takeWhile_all (h : ∀ x ∈ ds, p x = true) :
    ds.takeWhile p = ds := by
  simpa using List.takeWhile_append_of_pos (l₂ := []) h

theorem dropWhile_all (h : ∀ x ∈ ds, p x = true) :
    ds.dropWhile p = [] := by
  simpa using List.dropWhile_append_of_pos (l₂ := []) h

theorem optField_hit (hd : AllDigits ds) (hne : ds ≠ []) (hc : c.isDigit = false) (ht : term c = true) :
    optField term (ds ++ c :: rest) = (some (num ds), rest) := by
  obtain ⟨d, ds, rfl⟩ := List.exists_cons_of_ne_nil hne
  unfold optField
  rw [takeWhile_run c rest hd hc, dropWhile_run c rest hd hc]
  simp [ht]

theorem optField_miss (hd : AllDigits ds) (hc : c.isDigit = false) (ht : term c = false) :
    optField term (ds ++ c :: rest) = (none, ds ++ c :: rest) := by
  unfold optField
  rw [takeWhile_run c rest hd hc, dropWhile_run c rest hd hc]
  cases ds with
  | nil => simp
  | cons d ds => simp [ht]

theorem optField_nodigit (hc : c.isDigit = false) :
    optField term (c :: rest) = (none, c :: rest) := by
  unfold optField
  rw [List.takeWhile_cons_of_neg (by simp [hc])]

theorem takeNat_run (hd : AllDigits ds) (hne : ds ≠ []) (hc : c.isDigit = false) :
    takeNat (ds ++ c :: rest) = some (num ds, c :: rest) := by
  obtain ⟨d, ds, rfl⟩ := List.exists_cons_of_ne_nil hne
  unfold takeNat
  rw [takeWhile_run c rest hd hc, dropWhile_run c rest hd hc]

theorem takeNat_all (hd : AllDigits ds) (hne : ds ≠ []) :
    takeNat ds = some (num ds, []) := by
  obtain ⟨d, ds, rfl⟩ := List.exists_cons_of_ne_nil hne
  unfold takeNat
  rw [takeWhile_all hd, dropWhile_all hd]

end

theorem stripZeros_append_zeros (l : Text) : ∃ z, l = stripZeros l ++ List.replicate z '0' := by
  have hz : l.reverse.takeWhile (· == '0') = List.replicate _ '0' :=
    List.eq_replicate_iff.mpr
      ⟨rfl, fun b hb => by simpa using List.all_eq_true.mp List.all_takeWhile b hb⟩
  have h := congrArg List.reverse (List.takeWhile_append_dropWhile (p := (· == '0')) (l := l.reverse))
  rw [List.reverse_append, List.reverse_reverse, hz, List.reverse_replicate] at h
  exact ⟨_, h.symm⟩

theorem allDigits_stripZeros {l : Text} (h : AllDigits l) : AllDigits (stripZeros l) :=
  fun c hc => h c (List.mem_reverse.mp (List.dropWhile_subset _ (List.mem_reverse.mp hc)))

theorem stripZeros_pad3 {ms : Nat} (h0 : 0 < ms) (h : ms < 1000) :
    stripZeros (pad 3 ms) ≠ [] ∧ (stripZeros (pad 3 ms)).length ≤ 3 ∧
    AllDigits (stripZeros (pad 3 ms)) ∧ fracMicrosRound (stripZeros (pad 3 ms)) = ms * 1000 := by
  -- `pad 3 ms` is the stripped digits and `z` zeros, so `ms = 10^z · num fs` with `|fs| + z = 3`
  obtain ⟨z, hz⟩ := stripZeros_append_zeros (pad 3 ms)
  have hdig := allDigits_stripZeros (allDigits_pad 3 ms)
  have hlen : (pad 3 ms).length = 3 := length_pad (by decide) h
  have hnum := num_pad 3 ms
  generalize stripZeros (pad 3 ms) = fs at hz hdig ⊢
  rw [hz, List.length_append, List.length_replicate] at hlen
  rw [hz, num_append, num_replicate_zero, List.length_replicate, Nat.add_zero] at hnum
  refine ⟨?_, by omega, hdig, ?_⟩
  · rintro rfl
    rw [show num [] = 0 from rfl, Nat.mul_zero] at hnum
    omega
  · unfold fracMicrosRound
    rw [if_pos (by omega), ← hnum, show 6 - fs.length = z + 3 by omega, Nat.pow_add,
      Nat.mul_comm (10 ^ z) (num fs), Nat.mul_assoc]

theorem dot_not_mem {fs : Text} (h : AllDigits fs) : '.' ∉ fs :=
  fun hm => absurd (h _ hm) (by decide)

theorem AllDigits.ne_dot {ds : Text} (h : AllDigits ds) : ∀ x ∈ ds, (x != '.') = true :=
  fun _ hx => bne_iff_ne.mpr fun hc => dot_not_mem h (hc ▸ hx)

theorem isSecChar_of_isDigit {c : Char} (h : c.isDigit = true) : isSecChar c = true := by
  simp [isSecChar, h]

theorem isSecChar_run {ds fs : Text} (hd : AllDigits ds) (hf : AllDigits fs) (p : Prop) [Decidable p] :
    ∀ x ∈ ds ++ (if p then '.' :: fs else []), isSecChar x = true := by
  intro x hx
  rcases List.mem_append.mp hx with h | h
  · exact isSecChar_of_isDigit (hd x h)
  · split at h
    · rcases List.mem_cons.mp h with rfl | h
      · decide
      · exact isSecChar_of_isDigit (hf x h)
    · cases h

theorem contains_dot_false {fs : Text} (h : AllDigits fs) : fs.contains '.' = false := by
  simpa using dot_not_mem h

theorem secondsMicros_whole {ds : Text} (hd : AllDigits ds) (hne : ds ≠ []) :
    secondsMicros ds = some (num ds * 1000000) := by
  unfold secondsMicros
  rw [takeWhile_all hd.ne_dot, dropWhile_all hd.ne_dot]
  simp [hne]

theorem secondsMicros_frac {ds fs : Text} (hd : AllDigits ds) (hne : ds ≠ []) (hf : AllDigits fs) :
    secondsMicros (ds ++ '.' :: fs) = some (num ds * 1000000 + fracMicrosRound fs) := by
  unfold secondsMicros
  rw [takeWhile_run '.' fs hd.ne_dot (by decide), dropWhile_run '.' fs hd.ne_dot (by decide)]
  simp [dot_not_mem hf, hne]

/-- non-vacuity of `Admissible`; the front end of the driver's integer channel -/
theorem roundMs_admissible (f : Nat) : Admissible f (roundMs f) := by
  unfold Admissible roundMs
  omega

theorem admissible_le_1000 {f ms : Nat} (hf : f < 1000000) (h : Admissible f ms) : ms ≤ 1000 := by
  unfold Admissible at h
  omega

/-- the fraction part written by `toIsoDuration` for `ms` milliseconds -/
def fracPart (ms : Nat) : Text := if ms > 0 then '.' :: stripZeros (pad 3 ms) else []

theorem fracPart_spec {ms : Nat} (h : ms < 1000) :
    ∃ fs, fracPart ms = (if fs = [] then [] else '.' :: fs) ∧ fs.length ≤ 3 ∧ AllDigits fs
      ∧ fracMicrosRound fs = ms * 1000 := by
  unfold fracPart
  by_cases h0 : ms > 0
  · obtain ⟨hne, hlen, hdig, hval⟩ := stripZeros_pad3 h0 h
    exact ⟨_, by rw [if_pos h0, if_neg hne], hlen, hdig, hval⟩
  · have : ms = 0 := by omega
    subst this
    exact ⟨[], rfl, Nat.zero_le _, fun _ hx => absurd hx List.not_mem_nil, rfl⟩

theorem fracPart_S_head (ms : Nat) :
    ∃ c rest, fracPart ms ++ ['S'] = c :: rest ∧ (c = '.' ∨ c = 'S') := by
  unfold fracPart
  split
  · exact ⟨'.', _, rfl, Or.inl rfl⟩
  · exact ⟨'S', [], rfl, Or.inr rfl⟩

theorem parseSecondsPart_render (s ms : Nat) (hms : ms < 1000) :
    parseSecondsPart (dec s ++ (fracPart ms ++ ['S'])) = some (s * 1000000 + ms * 1000) := by
  obtain ⟨fs, hfs, -, hdig, hval⟩ := fracPart_spec hms
  have hsec : ∀ x ∈ dec s ++ fracPart ms, isSecChar x = true :=
    isSecChar_run (allDigits_dec s) (allDigits_stripZeros (allDigits_pad 3 ms)) (ms > 0)
  have hmic : secondsMicros (dec s ++ fracPart ms) = some (s * 1000000 + ms * 1000) := by
    rw [hfs]
    split
    next h =>
      subst h
      have h0 : ms * 1000 = 0 := hval.symm
      rw [List.append_nil, secondsMicros_whole (allDigits_dec s) (dec_ne_nil s), num_dec, h0, Nat.add_zero]
    next => rw [secondsMicros_frac (allDigits_dec s) (dec_ne_nil s) hdig, num_dec, hval]
  unfold parseSecondsPart
  rw [← List.append_assoc, takeWhile_run 'S' [] hsec rfl, dropWhile_run 'S' [] hsec rfl]
  simp [atEnd, dec_ne_nil, hmic]

def optUnit (o : Option Nat) (u : Char) : Text :=
  match o with
  | none => []
  | some n => dec n ++ [u]

theorem optUnit_none (u : Char) : optUnit none u = [] := rfl

theorem optUnit_some (n : Nat) (u : Char) : optUnit (some n) u = dec n ++ [u] := rfl

theorem optUnit_ite (c : Prop) [Decidable c] (n : Nat) (u : Char) :
    optUnit (if c then some n else none) u = if c then dec n ++ [u] else [] := by
  split <;> rfl

theorem optUnit_run (o : Option Nat) (u : Char) {ds : Text} (c : Char) (rest : Text) (hd : AllDigits ds) :
    ∃ ds' c' rest', AllDigits ds' ∧ optUnit o u ++ (ds ++ c :: rest) = ds' ++ c' :: rest' ∧
      (c' = u ∨ c' = c) := by
  cases o with
  | none => exact ⟨ds, c, rest, hd, rfl, .inr rfl⟩
  | some n => exact ⟨dec n, u, _, allDigits_dec n, List.append_assoc .., .inl rfl⟩

theorem optField_optUnit {term : Char → Bool} {u c : Char} {ds rest : Text} (o : Option Nat)
    (hu : u.isDigit = false) (htu : term u = true) (hd : AllDigits ds) (hc : c.isDigit = false)
    (htc : term c = false) :
    optField term (optUnit o u ++ (ds ++ c :: rest)) = (o, ds ++ c :: rest) := by
  cases o with
  | none => rw [optUnit_none, List.nil_append, optField_miss c rest hd hc htc]
  | some n =>
    rw [optUnit_some, List.append_assoc, List.singleton_append,
      optField_hit u _ (allDigits_dec n) (dec_ne_nil n) hu htu, num_dec]

/-- the text `PT(<h>H)?(<m>M)?<s>(.<fff>)?S` that `toIsoDuration` writes -/
def hmsText (h m : Option Nat) (s ms : Nat) : Text :=
  'P' :: 'T' :: (optUnit h 'H' ++ (optUnit m 'M' ++ (dec s ++ (fracPart ms ++ ['S']))))

theorem parseDuration_lex (h m : Option Nat) (s ms : Nat) (hms : ms < 1000) :
    parseDuration (hmsText h m s ms)
      = some ((((h.getD 0 * 60 + m.getD 0) * 60 + s) * 1000 + ms) * 1000) := by
  obtain ⟨c, rest, htail, hc⟩ := fracPart_S_head ms
  -- what follows the hours group is a digit run ending in `M`, `.` or `S`
  obtain ⟨ds, c', rest', hds, hform, hc'⟩ := optUnit_run m 'M' c rest (allDigits_dec s)
  have hcd : c.isDigit = false := by rcases hc with rfl | rfl <;> rfl
  have hcM : (c == 'M' || c == ':') = false := by rcases hc with rfl | rfl <;> rfl
  have hc'd : c'.isDigit = false := by
    rcases hc' with rfl | rfl
    · rfl
    · exact hcd
  have hc'H : (c' == 'H' || c' == ':') = false := by
    rcases hc' with rfl | rfl
    · rfl
    · rcases hc with rfl | rfl <;> rfl
  unfold hmsText parseDuration
  simp only [optField_nodigit 'T' _ rfl, htail]
  rw [hform, optField_optUnit h rfl rfl hds hc'd hc'H, ← hform,
    optField_optUnit m rfl rfl (allDigits_dec s) hcd hcM, ← htail, parseSecondsPart_render s ms hms]
  simp only [Option.getD_none, Nat.zero_mul, Nat.zero_add, Option.map_some, Option.some.injEq]
  omega

theorem getD_ite_some {c : Prop} [Decidable c] {n : Nat} (h : ¬ c → n = 0) :
    (if c then some n else none).getD 0 = n := by
  split
  · rfl
  next hc => exact (h hc).symm

theorem isoDurationBack_eq (secs ms : Nat) (hms : ms ≤ 1000) :
    ∃ h m s f, isoDurationBack secs ms = hmsText h m s f ∧ f < 1000 ∧ s < 60 ∧
      (∀ x, m = some x → x < 60) ∧
      ((h.getD 0 * 60 + m.getD 0) * 60 + s) * 1000 + f = secs * 1000 + ms := by
  have hsplit (S : Nat) : (S / 3600 * 60 + S % 3600 / 60) * 60 + S % 3600 % 60 = S := by omega
  unfold isoDurationBack
  -- `S`, `f`: seconds and milliseconds after the carry
  generalize hS : (if ms ≥ 1000 then secs + 1 else secs) = S
  generalize hf : (if ms ≥ 1000 then ms - 1000 else ms) = f
  have hf' : f < 1000 := by rw [← hf]; split <;> omega
  have hv : S * 1000 + f = secs * 1000 + ms := by rw [← hS, ← hf]; split <;> omega
  clear hS hf
  -- a group is written only if it or a higher one is not 0
  refine ⟨if S / 3600 ≠ 0 then some (S / 3600) else none,
    if S / 3600 ≠ 0 ∨ S % 3600 / 60 ≠ 0 then some (S % 3600 / 60) else none, S % 3600 % 60, f,
    ?_, hf', by omega, ?_, ?_⟩
  · simp only [hmsText, optUnit_ite, fracPart, List.append_assoc, List.cons_append, List.nil_append]
  · intro x hx
    obtain ⟨-, hx⟩ := Option.ite_none_right_eq_some.mp hx
    cases hx
    omega
  · rw [getD_ite_some (by omega), getD_ite_some (by omega), hsplit, hv]

theorem field_pad (k n : Nat) (c : Char) (rest : Text) (hc : c.isDigit = false) :
    field c (pad k n ++ c :: rest) = some (n, rest) := by
  unfold field
  rw [takeNat_run c rest (allDigits_pad k n) (pad_ne_nil k n) hc, num_pad]
  simp [expect]

/-- the offset as `isoformat()` writes it -/
def offText (o : Int) : Text :=
  (if o < 0 then '-' else '+') :: pad 2 (o.natAbs / 60) ++ ':' :: pad 2 (o.natAbs % 60)

/-- the zone designator `to_iso_datetime` ends with -/
def tzText (off : Option Int) : Text :=
  match off with
  | none => ['Z']
  | some o => if o = 0 then ['Z'] else offText o

/-- date, time and fraction as `isoformat()` writes them -/
def bodyText (d : DateTime) : Text :=
  pad 4 d.year ++ '-' :: pad 2 d.month ++ '-' :: pad 2 d.day ++ 'T' :: pad 2 d.hour
    ++ ':' :: pad 2 d.minute ++ ':' :: pad 2 d.second
    ++ (if d.micro ≠ 0 then '.' :: pad 6 d.micro else [])

theorem offText_eq {o : Int} (h : o.natAbs < 1440) :
    offText o = [if o < 0 then '-' else '+', Nat.digitChar (o.natAbs / 60 / 10),
      Nat.digitChar (o.natAbs / 60 % 10), ':', Nat.digitChar (o.natAbs % 60 / 10),
      Nat.digitChar (o.natAbs % 60 % 10)] := by
  unfold offText
  rw [pad2_eq (by omega : o.natAbs / 60 < 100), pad2_eq (by omega : o.natAbs % 60 < 100)]
  rfl

theorem subZ_append_six (pre t : Text) (ht : t.length = 6) :
    subZ (pre ++ t) = if t = ['+', '0', '0', ':', '0', '0'] ∨ t = ['-', '0', '0', ':', '0', '0']
      then pre ++ ['Z'] else pre ++ t := by
  unfold subZ
  have hl : (pre ++ t).length - 6 = pre.length := by simp [ht]
  have hge : (pre ++ t).length ≥ 6 := by simp [ht]
  simp only [hl, List.drop_left, List.take_left, hge, true_and]

theorem subZ_offset (pre : Text) {o : Int} (h : o.natAbs < 1440) :
    subZ (pre ++ offText o) = pre ++ tzText (some o) := by
  have hz : (offText o = ['+', '0', '0', ':', '0', '0'] ∨ offText o = ['-', '0', '0', ':', '0', '0'])
      ↔ o = 0 := by
    constructor
    · rw [offText_eq h]
      simp only [List.cons.injEq, Nat.digitChar_eq_zero, and_true]
      omega
    · rintro rfl
      exact .inl (by decide)
  rw [subZ_append_six pre (offText o) (by rw [offText_eq h]; rfl), tzText]
  simp only [hz]
  split <;> rfl

theorem toIsoDateTime_eq (d : DateTime) (h : d.offsetOk = true) :
    toIsoDateTime d = bodyText d ++ tzText d.offset := by
  unfold toIsoDateTime
  cases hoff : d.offset with
  | none => simp [isoformat, bodyText, tzText, hoff]
  | some o =>
    have ho : o.natAbs < 1440 := by simpa [DateTime.offsetOk, hoff] using h
    have : isoformat d = bodyText d ++ offText o := by
      simp [isoformat, bodyText, offText, hoff]
    show subZ (isoformat d) = _
    rw [this, subZ_offset _ ho]

theorem parseTz_sign {sg : Char} (hsg : sg = '+' ∨ sg = '-') (h m : Nat) :
    parseTz (sg :: pad 2 h ++ ':' :: pad 2 m)
      = (some (if sg = '-' then -((h * 60 + m : Nat) : Int) else (h * 60 + m : Nat)), []) := by
  have hZ : sg ≠ 'Z' := by rcases hsg with rfl | rfl <;> decide
  unfold parseTz
  simp only [List.cons_append, hZ, hsg, if_false, if_true, field_pad 2 h ':' _ rfl,
    takeNat_all (allDigits_pad 2 m) (pad_ne_nil 2 m), num_pad]

theorem offText_sign (o : Int) :
    (if o < 0 then '-' else '+') = '+' ∨ (if o < 0 then '-' else '+') = '-' := by
  split
  · exact .inr rfl
  · exact .inl rfl

theorem parseTz_offText (o : Int) : parseTz (offText o) = (some o, []) := by
  unfold offText
  -- `|o|/60·60 + |o|%60 = |o|`, and the sign character gives the sign back
  rw [parseTz_sign (offText_sign o), Nat.div_add_mod']
  congr 2
  by_cases hneg : o < 0
  · rw [if_pos hneg, if_pos rfl]
    omega
  · rw [if_neg hneg, if_neg (by decide)]
    omega

theorem tzText_cases (off : Option Int) :
    (off.getD 0 = 0 ∧ tzText off = ['Z']) ∨ ∃ o, off = some o ∧ o ≠ 0 ∧ tzText off = offText o := by
  unfold tzText
  cases off with
  | none => exact .inl ⟨rfl, rfl⟩
  | some o =>
    by_cases h0 : o = 0
    · exact .inl ⟨h0, if_pos h0⟩
    · exact .inr ⟨o, rfl, h0, if_neg h0⟩

theorem parseTz_tzText (off : Option Int) :
    parseTz (tzText off) = (some (off.getD 0), []) := by
  rcases tzText_cases off with ⟨h0, e⟩ | ⟨o, rfl, -, e⟩ <;> rw [e]
  · rw [h0]
    rfl
  · exact parseTz_offText o

theorem tzText_head (off : Option Int) :
    ∃ c rest, tzText off = c :: rest ∧ isSecChar c = false := by
  rcases tzText_cases off with ⟨-, e⟩ | ⟨o, rfl, -, e⟩ <;> rw [e]
  · exact ⟨_, _, rfl, by decide⟩
  · exact ⟨_, _, rfl, by split <;> decide⟩

theorem parseSecond_render (sec us : Nat) (hus : us < 1000000) :
    parseSecond (pad 2 sec ++ (if us ≠ 0 then '.' :: pad 6 us else [])) = some (sec, us) := by
  have h1 := (allDigits_pad 2 sec).ne_dot
  unfold parseSecond
  by_cases h0 : us = 0
  · subst h0
    have hnd : (pad 2 sec).contains '.' = false := contains_dot_false (allDigits_pad 2 sec)
    simp only [ne_eq, not_true_eq_false, if_false, List.append_nil, hnd, Bool.false_eq_true, num_pad]
  · have hd : (pad 2 sec ++ '.' :: pad 6 us).contains '.' = true := by simp
    rw [if_pos h0, if_pos hd, takeWhile_run '.' _ h1 (by decide), dropWhile_run '.' _ h1 (by decide)]
    simp only [List.drop_succ_cons, List.drop_zero]
    rw [List.take_left' (length_pad (n := us) (by decide) hus), num_pad, num_pad]
    simp [dot_not_mem (allDigits_pad 6 us), pad_ne_nil]

theorem parseSecTz_render (sec us : Nat) (off : Option Int) (hus : us < 1000000) :
    parseSecTz (pad 2 sec ++ (if us ≠ 0 then '.' :: pad 6 us else []) ++ tzText off)
      = some (sec, us, some (off.getD 0)) := by
  obtain ⟨c, rest, htz, hc⟩ := tzText_head off
  have hall := isSecChar_run (allDigits_pad 2 sec) (allDigits_pad 6 us) (us ≠ 0)
  unfold parseSecTz
  dsimp only
  rw [htz, takeWhile_run c rest hall hc, dropWhile_run c rest hall hc, ← htz, parseTz_tzText,
    parseSecond_render sec us hus]
  simp [atEnd, pad_ne_nil]

theorem DateTime.valid_iff (d : DateTime) :
    d.valid = true ↔ 1 ≤ d.year ∧ d.year ≤ 9999 ∧ 1 ≤ d.month ∧ d.month ≤ 12 ∧ 1 ≤ d.day ∧
      d.day ≤ daysInMonth d.year d.month ∧ d.hour < 24 ∧ d.minute < 60 ∧ d.second < 60 ∧
      d.micro < 1000000 := by
  simp only [DateTime.valid, Bool.and_eq_true, decide_eq_true_eq, and_assoc]

theorem parseDateTime_render (d : DateTime) (hv : d.valid = true) :
    parseDateTime (bodyText d ++ tzText d.offset)
      = some { d with offset := some (d.offset.getD 0) } := by
  obtain ⟨-, -, -, -, -, -, -, -, -, hus⟩ := d.valid_iff.mp hv
  have hv' : ({ d with offset := some (d.offset.getD 0) } : DateTime).valid = true := hv
  unfold parseDateTime bodyText
  simp only [List.append_assoc, List.cons_append, field_pad _ _ '-' _ rfl, field_pad _ _ 'T' _ rfl,
    field_pad _ _ ':' _ rfl, Option.bind_some]
  rw [← List.append_assoc, parseSecTz_render d.second d.micro d.offset hus]
  simp only [Option.bind_some]
  rw [if_pos hv']

theorem fromIsoDateTime_P {s : Text} (h : s.head? = some 'P') :
    fromIsoDateTime s = (parseDuration s).map .duration := by
  unfold fromIsoDateTime
  rw [if_neg (by rintro rfl; cases h), if_pos h]

theorem timecodeToTimedelta_eq (tc ts : Int) (hts : 0 < ts) : timecodeToTimedelta tc ts = tc * 1000000 / ts := by
  unfold timecodeToTimedelta
  exact Int.fdiv_eq_ediv_of_nonneg _ (Int.le_of_lt hts)

theorem scaled_split_eq (delta k : Int) :
    k * tdSeconds delta + k * tdDays delta * 86400 + Int.fdiv (k * tdMicros delta) 1000000
      = k * delta / 1000000 := by
  -- seconds and days recombine to `δ / 10⁶`, the microseconds are `δ % 10⁶`
  have hq : tdSeconds delta + tdDays delta * 86400 = delta / 1000000 := by
    unfold tdSeconds tdDays
    rw [Int.fdiv_eq_ediv_of_nonneg _ (by decide), Int.fdiv_eq_ediv_of_nonneg _ (by decide),
      Int.fmod_eq_emod_of_nonneg _ (by decide)]
    omega
  have hr : tdMicros delta = delta % 1000000 := Int.fmod_eq_emod_of_nonneg _ (by decide)
  rw [Int.fdiv_eq_ediv_of_nonneg _ (by decide), hr, Int.mul_assoc, ← Int.mul_add, hq, Int.add_comm,
    ← Int.add_mul_ediv_right _ _ (by decide), Int.mul_assoc, ← Int.mul_add, Int.emod_add_ediv_mul]

theorem timedeltaToTimecode_eq (delta ts : Int) : timedeltaToTimecode delta ts = ts * delta / 1000000 := by
  rw [← scaled_split_eq delta ts]
  unfold timedeltaToTimecode
  omega

theorem multiplyTimedelta_eq (delta k : Int) : multiplyTimedelta delta k = k * delta / 1000000 := by
  rw [← scaled_split_eq delta k]
  rfl

theorem floor_roundtrip (x a b : Int) (ha : 0 < a) (hb : 0 < b) :
    x * a / b * b / a ≤ x ∧ (x - x * a / b * b / a) * a < b + a := by
  -- with `P := ⌊xa/b⌋·b` and `z := ⌊P/a⌋`: `xa − b < P ≤ xa` and `P − a < za ≤ P`
  have h1 := Int.ediv_mul_le (x * a) (Int.ne_of_gt hb)
  have h2 := Int.lt_ediv_add_one_mul_self (x * a) hb
  have h3 := Int.ediv_mul_le (x * a / b * b) (Int.ne_of_gt ha)
  have h4 := Int.lt_ediv_add_one_mul_self (x * a / b * b) ha
  rw [Int.add_mul, Int.one_mul] at h2 h4
  generalize x * a / b * b = P at *
  generalize P / a = z at *
  refine ⟨Int.le_of_mul_le_mul_right (Int.le_trans h3 h1) ha, ?_⟩
  rw [Int.sub_mul]
  generalize z * a = R at *
  generalize x * a = Q at *
  omega

end DashLive.IsoText

-- lemmas that both C05 and C19 rest on, audited here
#print axioms DashLive.IsoText.roundMs_admissible
#print axioms DashLive.IsoText.admissible_le_1000
#print axioms DashLive.IsoText.isoDurationBack_eq
