import DashLive.Lemmas.Ascii
/-! Lemmas for C07, in this order: generic list facts; the texts the option codecs write, described by the
byte classes of the model (digits, letters, unreserved bytes: bytes of different classes differ,
`ne_of_class`, which is all that the separators `, = & ? #` need) – escaping, split/join, numerals, none-like
texts, DRM selections, error lists under the date-time laws `DtCodecLaws`, the query string; the round-trip
domain `Canonical`/`ValEquiv` and that the parsers land in it; the registry table as a dictionary (`TableOk`,
checked on bytes by `tableOk_of_utf8`); `convert_options` and `generate_cgi_parameters`; what the media handler
makes of a URL whose query reads as a written parameter list (`media_parse_of_params`); the handlers' pipeline
up to `serve_stages`. -/
namespace DashLive.Options

theorem exceptMap_ok {ε α β : Type} {f : α → β} {x : Except ε α} {y : β} (h : x.map f = .ok y) :
    ∃ a, x = .ok a ∧ f a = y := by
  cases x with
  | error e => cases h
  | ok a => cases h; exact ⟨a, rfl, rfl⟩

theorem mapM_map_ok {ε α β : Type} {f : β → α} {g : α → Except ε β} (l : List β)
    (h : ∀ x ∈ l, g (f x) = .ok x) : (l.map f).mapM g = .ok l := by
  induction l with
  | nil => rfl
  | cons a s ih =>
    simp only [List.map_cons, List.mapM_cons, h a (by simp), ih fun x hx => h x (by simp [hx])]
    rfl

theorem mapM_ok_mem {ε α β : Type} (f : α → Except ε β) (l : List α) (r : List β)
    (h : l.mapM f = .ok r) : ∀ y ∈ r, ∃ x ∈ l, f x = .ok y := by
  induction l generalizing r with
  | nil => cases h; simp
  | cons a t ih =>
    rw [List.mapM_cons] at h
    cases ha : f a <;> cases ht : t.mapM f <;> rw [ha, ht] at h <;> cases h
    intro y hy
    rcases List.mem_cons.mp hy with rfl | hy
    · exact ⟨a, by simp, ha⟩
    · obtain ⟨x, hx, hfx⟩ := ih _ ht y hy
      exact ⟨x, by simp [hx], hfx⟩

theorem findIdx?_some {α : Type} {l : List α} {p : α → Bool} {i : Nat} (h : l.findIdx? p = some i) :
    ∃ a, l[i]? = some a ∧ p a = true := by
  obtain ⟨hlt, hp, _⟩ := List.findIdx?_eq_some_iff_getElem.mp h
  exact ⟨l[i], by simp [hlt], hp⟩

theorem findIdx?_key {α β : Type} [BEq β] [LawfulBEq β] {l : List α} (f : α → β) (hnd : (l.map f).Nodup)
    {i : Nat} {a : α} (h : l[i]? = some a) : l.findIdx? (fun x => f x == f a) = some i := by
  obtain ⟨hlt, hget⟩ := List.getElem?_eq_some_iff.mp h
  refine List.findIdx?_eq_some_iff_getElem.mpr ⟨hlt, by simp [hget], fun j hji hc => ?_⟩
  have hjl : j < l.length := Nat.lt_trans hji hlt
  have : (l.map f)[j]? = (l.map f)[i]? := by
    simp only [List.getElem?_map, h, List.getElem?_eq_getElem hjl, Option.map_some]
    simpa using hc
  exact absurd ((List.getElem?_inj (by simpa using hjl) hnd).mp this) (Nat.ne_of_lt hji)

theorem dropWhile_id {α : Type} {p : α → Bool} (l : List α) (h : ∀ b ∈ l, p b = false) : l.dropWhile p = l := by
  cases l with
  | nil => rfl
  | cons b r => exact List.dropWhile_cons_of_neg (by simp [h b (by simp)])

theorem ne_of_class {p : UInt8 → Bool} {b c : UInt8} (hb : p b = true) (hc : p c = false) : b ≠ c :=
  fun e => by rw [e, hc] at hb; cases hb

def isAlpha (b : UInt8) : Bool := isUpper b || isLower b

-- digits are 48–57, letters 65–90 and 97–122, white space 9–13 and 32
theorem isDigit_not_alpha {b : UInt8} (h : isDigit b = true) : isAlpha b = false := by
  simp [isDigit, isAlpha, isUpper, isLower, UInt8.le_iff_toNat_le] at h ⊢
  omega

theorem isDigit_not_ws {b : UInt8} (h : isDigit b = true) : isWs b = false := by
  simp [isDigit, isWs, UInt8.le_iff_toNat_le, ← UInt8.toNat_inj] at h ⊢
  omega

theorem digitB_spec : ∀ d, d < 10 → isDigit (digitB d) = true ∧ digitVal (digitB d) = d := by decide +kernel

theorem hexU_spec : ∀ n, n < 16 → unhex (hexU n) = some n ∧ isUnreserved (hexU n) = true := by decide +kernel

theorem unquotePlus_nil : unquotePlus [] = [] := by simp [unquotePlus]

theorem unquotePlus_plain {b : UInt8} (r : Bytes) (h1 : b ≠ 43) (h2 : b ≠ 37) :
    unquotePlus (b :: r) = b :: unquotePlus r := by
  rw [unquotePlus.eq_def]; simp [h1, h2]

theorem unquotePlus_plus (r : Bytes) : unquotePlus (43 :: r) = 32 :: unquotePlus r := by
  rw [unquotePlus.eq_def]; simp

theorem unquotePlus_pct {x y : Nat} (hx : x < 16) (hy : y < 16) (r : Bytes) :
    unquotePlus (37 :: hexU x :: hexU y :: r) = UInt8.ofNat (x * 16 + y) :: unquotePlus r := by
  rw [unquotePlus.eq_def]
  simp [(hexU_spec x hx).1, (hexU_spec y hy).1]

theorem unquotePlus_append (a t : Bytes) (h : ∀ b ∈ a, b ≠ 43 ∧ b ≠ 37) :
    unquotePlus (a ++ t) = a ++ unquotePlus t := by
  induction a with
  | nil => rfl
  | cons b r ih =>
    rw [List.cons_append, unquotePlus_plain _ (h b (by simp)).1 (h b (by simp)).2,
      ih (fun x hx => h x (by simp [hx])), List.cons_append]

theorem unquotePlus_id (s : Bytes) (h : ∀ b ∈ s, b ≠ 43 ∧ b ≠ 37) : unquotePlus s = s := by
  have := unquotePlus_append s [] h
  rwa [List.append_nil, unquotePlus_nil, List.append_nil] at this

/-- a `safe` set that leaves `+` and `%`, the two characters `unquote_plus` interprets, escaped -/
def SafeOk (safe : UInt8 → Bool) : Prop := safe 43 = false ∧ safe 37 = false

theorem toNat_div16_lt (b : UInt8) : b.toNat / 16 < 16 := by have := b.toNat_lt; omega

section
variable {safe : UInt8 → Bool}

theorem unquotePlus_quoteByte (hs : SafeOk safe) (b : UInt8) (r : Bytes) :
    unquotePlus (quoteByte safe b ++ r) = b :: unquotePlus r := by
  unfold quoteByte
  split
  · -- a byte that is written as it is, is neither `+` nor `%`: these are not unreserved and not safe
    rename_i h
    have hk : ∀ c, isUnreserved c = false → safe c = false → b ≠ c := fun c hu hc =>
      ne_of_class (p := fun x => isUnreserved x || safe x) h (by simp [hu, hc])
    exact unquotePlus_plain r (hk 43 (by decide) hs.1) (hk 37 (by decide) hs.2)
  · split
    · rename_i h32
      rw [h32]; exact unquotePlus_plus r
    · rw [List.cons_append, List.cons_append, List.cons_append, List.nil_append,
        unquotePlus_pct (toNat_div16_lt b) (Nat.mod_lt _ (by decide)), Nat.div_add_mod', UInt8.ofNat_toNat]

theorem unquotePlus_quotePlus (hs : SafeOk safe) (s : Bytes) : unquotePlus (quotePlus safe s) = s := by
  induction s with
  | nil => simp [quotePlus, unquotePlus_nil]
  | cons b r ih => simp only [quotePlus]; rw [unquotePlus_quoteByte hs, ih]

theorem mem_quotePlus {c : UInt8} {s : Bytes} (h : c ∈ quotePlus safe s) :
    isUnreserved c = true ∨ safe c = true ∨ c = 43 ∨ c = 37 := by
  induction s with
  | nil => cases h
  | cons b r ih =>
    rw [quotePlus, List.mem_append] at h
    rcases h with h | h
    · unfold quoteByte at h
      split at h
      · rename_i hb
        simp only [List.mem_singleton] at h
        rw [h]; rcases (Bool.or_eq_true _ _).mp hb with hb | hb <;> simp [hb]
      · split at h
        · simp_all
        · simp only [List.mem_cons, List.not_mem_nil, or_false] at h
          rcases h with h | h | h
          · simp [h]
          · rw [h]; exact Or.inl (hexU_spec _ (toNat_div16_lt b)).2
          · rw [h]; exact Or.inl (hexU_spec _ (Nat.mod_lt _ (by decide))).2
    · exact ih h

end

theorem splitOn_cons_sep (sep : UInt8) (r : Bytes) : splitOn sep (sep :: r) = [] :: splitOn sep r := by
  rw [splitOn]; simp

theorem splitOn_cons_ne {sep b : UInt8} {r p : Bytes} {ps : List Bytes} (h : b ≠ sep)
    (hs : splitOn sep r = p :: ps) : splitOn sep (b :: r) = (b :: p) :: ps := by
  rw [splitOn]; simp [h, hs]

theorem splitOn_spec (sep : UInt8) (s : Bytes) :
    ∃ p ps, splitOn sep s = p :: ps ∧ (∀ q ∈ p :: ps, sep ∉ q) ∧ (sep ∈ s → ∃ q qs, ps = q :: qs) := by
  induction s with
  | nil => exact ⟨[], [], rfl, by simp, by simp⟩
  | cons b r ih =>
    obtain ⟨p, ps, hs, hq, hm⟩ := ih
    by_cases hb : b = sep
    · subst hb
      exact ⟨[], p :: ps, by rw [splitOn_cons_sep, hs], by simpa using hq, fun _ => ⟨p, ps, rfl⟩⟩
    · refine ⟨b :: p, ps, splitOn_cons_ne hb hs, ?_, fun h => hm ?_⟩
      · simp only [List.mem_cons, forall_eq_or_imp, not_or] at hq ⊢
        exact ⟨⟨fun e => hb e.symm, hq.1⟩, hq.2⟩
      · exact (List.mem_cons.mp h).resolve_left fun e => hb e.symm

theorem splitOn_prefix {sep : UInt8} {p t q : Bytes} {qs : List Bytes} (h : sep ∉ p)
    (ht : splitOn sep t = q :: qs) : splitOn sep (p ++ t) = (p ++ q) :: qs := by
  induction p with
  | nil => exact ht
  | cons b r ih =>
    simp only [List.mem_cons, not_or] at h
    exact splitOn_cons_ne (fun e => h.1 e.symm) (ih h.2)

theorem splitOn_noSep {sep : UInt8} {p : Bytes} (h : sep ∉ p) : splitOn sep p = [p] := by
  simpa using splitOn_prefix h (t := []) rfl

theorem splitOn_append_sep {sep : UInt8} {p : Bytes} (r : Bytes) (h : sep ∉ p) :
    splitOn sep (p ++ sep :: r) = p :: splitOn sep r := by
  simpa using splitOn_prefix h (splitOn_cons_sep sep r)

theorem splitOn_joinWith (sep : UInt8) (ps : List Bytes) (hne : ps ≠ [])
    (h : ∀ p ∈ ps, sep ∉ p) : splitOn sep (joinWith sep ps) = ps := by
  induction ps with
  | nil => exact absurd rfl hne
  | cons p r ih =>
    cases r with
    | nil => simp only [joinWith]; exact splitOn_noSep (h p (by simp))
    | cons q r' =>
      simp only [joinWith]
      rw [splitOn_append_sep _ (h p (by simp)), ih (by simp) (fun x hx => h x (by simp [hx]))]

theorem splitFirst_prefix {sep : UInt8} {k : Bytes} (t : Bytes) (h : sep ∉ k) :
    splitFirst sep (k ++ t) = (k ++ (splitFirst sep t).1, (splitFirst sep t).2) := by
  induction k with
  | nil => rfl
  | cons b q ih =>
    simp only [List.mem_cons, not_or] at h
    have hb : b ≠ sep := fun e => h.1 e.symm
    simp [splitFirst, hb, ih h.2]

theorem splitFirst_append {sep : UInt8} {k : Bytes} (v : Bytes) (h : sep ∉ k) :
    splitFirst sep (k ++ sep :: v) = (k, some v) := by
  simp [splitFirst_prefix _ h, splitFirst]

theorem splitFirst_noSep {sep : UInt8} {k : Bytes} (h : sep ∉ k) : splitFirst sep k = (k, none) := by
  simpa [splitFirst] using splitFirst_prefix [] h

theorem joinWith_head (sep b : UInt8) (r : Bytes) (ts : List Bytes) :
    ∃ r', joinWith sep ((b :: r) :: ts) = b :: r' := by
  cases ts with
  | nil => exact ⟨r, rfl⟩
  | cons q qs => exact ⟨r ++ sep :: joinWith sep (q :: qs), rfl⟩

theorem mem_joinWith {c sep : UInt8} {ps : List Bytes} (h : c ∈ joinWith sep ps) :
    c = sep ∨ ∃ p ∈ ps, c ∈ p := by
  induction ps with
  | nil => cases h
  | cons p r ih =>
    cases r with
    | nil => exact Or.inr ⟨p, by simp, by simpa [joinWith] using h⟩
    | cons q r' =>
      simp only [joinWith, List.mem_append, List.mem_cons] at h
      rcases h with h | h | h
      · exact Or.inr ⟨p, by simp, h⟩
      · exact Or.inl h
      · exact (ih h).imp id fun ⟨x, hx, hc⟩ => ⟨x, List.mem_cons_of_mem _ hx, hc⟩

theorem natDec_digits (n : Nat) : ∀ b ∈ natDec n, isDigit b = true := by
  induction n using Nat.strongRecOn with
  | _ n ih =>
    by_cases h : n < 10
    · rw [natDec, if_pos h]; intro b hb; simp at hb; rw [hb]; exact (digitB_spec n h).1
    · rw [natDec, if_neg h]; intro b hb
      rcases List.mem_append.mp hb with hb | hb
      · exact ih (n / 10) (by omega) b hb
      · simp at hb; rw [hb]; exact (digitB_spec _ (Nat.mod_lt _ (by decide))).1

theorem natDec_head (n : Nat) : ∃ b r, natDec n = b :: r ∧ isDigit b = true := by
  cases h : natDec n with
  | nil => rw [natDec] at h; split at h <;> simp at h
  | cons b r => exact ⟨b, r, rfl, natDec_digits n b (by rw [h]; simp)⟩

theorem digitsVal_append (acc : Nat) (xs : Bytes) {d : Nat} (hd : d < 10) :
    digitsVal acc (xs ++ [digitB d]) = (digitsVal acc xs).map (fun a => a * 10 + d) := by
  induction xs generalizing acc with
  | nil => simp [digitsVal, digitB_spec d hd]
  | cons b r ih =>
    simp only [List.cons_append, digitsVal]
    split
    · exact ih _
    · rfl

theorem digitsVal_natDec (n : Nat) : digitsVal 0 (natDec n) = some n := by
  induction n using Nat.strongRecOn with
  | _ n ih =>
    by_cases h : n < 10
    · rw [natDec, if_pos h]; simp [digitsVal, digitB_spec n h]
    · rw [natDec, if_neg h, digitsVal_append _ _ (Nat.mod_lt _ (by decide)), ih (n / 10) (by omega)]
      simp; omega

theorem pyDigitsAux_digits (l : Bytes) (hl : ∀ b ∈ l, isDigit b = true) (acc : Nat) :
    pyDigitsAux acc true l = digitsVal acc l := by
  induction l generalizing acc with
  | nil => simp [pyDigitsAux, digitsVal]
  | cons b r ih =>
    simp only [pyDigitsAux, digitsVal, hl b (by simp), if_true]
    exact ih (fun x hx => hl x (by simp [hx])) _

/-- digits that run into a `-` are not a number -/
theorem pyDigitsAux_run (ds rest : Bytes) (h : ∀ b ∈ ds, isDigit b = true) (acc : Nat) (prev : Bool) :
    pyDigitsAux acc prev (ds ++ 45 :: rest) = none := by
  induction ds generalizing acc prev with
  | nil => simp [pyDigitsAux, isDigit]
  | cons b r ih =>
    simp only [List.cons_append, pyDigitsAux, h b List.mem_cons_self, if_true]
    exact ih (fun x hx => h x (List.mem_cons_of_mem _ hx)) _ _

theorem pyDigits_natDec (n : Nat) : pyDigits (natDec n) = some n := by
  rw [← digitsVal_natDec n]
  have hd := natDec_digits n
  obtain ⟨b, r, h, hb⟩ := natDec_head n
  rw [h] at hd ⊢
  simp only [pyDigits, pyDigitsAux, digitsVal, hb, if_true]
  exact pyDigitsAux_digits r (fun x hx => hd x (by simp [hx])) _

theorem strip_id (l : Bytes) (h : ∀ b ∈ l, isWs b = false) : strip l = l := by
  unfold strip
  rw [dropWhile_id l h, dropWhile_id l.reverse (fun b hb => h b (List.mem_reverse.mp hb)), List.reverse_reverse]

theorem natDec_noWs (n : Nat) : ∀ b ∈ natDec n, isWs b = false :=
  fun b hb => isDigit_not_ws (natDec_digits n b hb)

theorem pyInt_digit_head {b : UInt8} {r : Bytes} (hws : ∀ x ∈ b :: r, isWs x = false)
    (hb : isDigit b = true) : pyInt (b :: r) = (pyDigits (b :: r)).map Int.ofNat := by
  rw [pyInt, strip_id _ hws]
  simp only [ne_of_class hb (c := 45) (by decide), ne_of_class hb (c := 43) (by decide), if_false]

theorem pyInt_natDec (n : Nat) : pyInt (natDec n) = some (n : Int) := by
  obtain ⟨b, r, h, hb⟩ := natDec_head n
  have hws := natDec_noWs n
  have hp := pyDigits_natDec n
  rw [h] at hws hp ⊢
  rw [pyInt_digit_head hws hb, hp]
  rfl

theorem pyInt_intDec (z : Int) : pyInt (intDec z) = some z := by
  unfold intDec
  split
  · unfold pyInt
    have hws : ∀ b ∈ (45 : UInt8) :: natDec z.natAbs, isWs b = false := by
      intro b hb
      rcases List.mem_cons.mp hb with rfl | hb
      · decide
      · exact natDec_noWs _ b hb
    rw [strip_id _ hws]
    simp only [if_true, pyDigits_natDec, Option.map_some]
    congr 1; show -((z.natAbs : Nat) : Int) = z; omega
  · rw [pyInt_natDec]; congr 1; omega

theorem intDec_bytes (z : Int) : ∀ b ∈ intDec z, b = 45 ∨ isDigit b = true := by
  unfold intDec
  split
  · intro b hb
    exact (List.mem_cons.mp hb).imp id (natDec_digits _ b)
  · exact fun b hb => Or.inr (natDec_digits _ b hb)

theorem intDec_not_mem {c : UInt8} (z : Int) (h45 : c ≠ 45) (hd : isDigit c = false) : c ∉ intDec z :=
  fun h => (intDec_bytes z c h).elim h45 (by simp [hd])

theorem intDec_noComma (z : Int) : (44 : UInt8) ∉ intDec z := intDec_not_mem z (by decide) (by decide)

theorem intDec_noEq (z : Int) : (61 : UInt8) ∉ intDec z := intDec_not_mem z (by decide) (by decide)

theorem intDec_head (z : Int) : ∃ b r, intDec z = b :: r ∧ isAlpha b = false := by
  unfold intDec
  split
  · exact ⟨45, _, rfl, by decide⟩
  · obtain ⟨b, r, h, hb⟩ := natDec_head z.toNat
    exact ⟨b, r, h, isDigit_not_alpha hb⟩

theorem isNoneCI_alpha {s : Bytes} (h : isNoneCI s = true) {c : UInt8} (hc : c ∈ s) : isAlpha c = true := by
  have hm : lowerB c ∈ lower s := List.mem_map_of_mem hc
  have ht : ∀ x ∈ tNone, isLower x = true := by decide
  simp only [isNoneCI, Bool.or_eq_true, beq_iff_eq] at h
  rcases h with h | h <;> rw [h] at hm
  · cases hm
  · -- `lowerB c` is a lower-case letter: `c` is that letter or its upper case
    have := ht _ hm
    unfold lowerB at this
    unfold isAlpha
    split at this <;> simp [*]

theorem isNoneCI_false_of_mem {s : Bytes} {c : UInt8} (hc : c ∈ s) (h : isAlpha c = false) : isNoneCI s = false := by
  cases hs : isNoneCI s with
  | false => rfl
  | true => rw [isNoneCI_alpha hs hc] at h; cases h

theorem isNoneCS_false {s : Bytes} (h : isNoneCI s = false) : isNoneCS s = false := by
  cases hs : isNoneCS s with
  | false => rfl
  | true =>
    simp only [isNoneCS, Bool.or_eq_true, beq_iff_eq] at hs
    rcases hs with rfl | rfl <;> cases h

theorem isNoneCI_intDec (z : Int) : isNoneCI (intDec z) = false := by
  obtain ⟨b, r, h, hb⟩ := intDec_head z
  rw [h]; exact isNoneCI_false_of_mem (List.mem_cons_self ..) hb

theorem intOrNone_intDec (z : Int) : intOrNone (intDec z) = .ok (some z) := by
  simp [intOrNone, isNoneCS_false (isNoneCI_intDec z), pyInt_intDec]

theorem pyTenths_tenthsDec (t : Nat) : pyTenths (tenthsDec t) = some t := by
  unfold pyTenths tenthsDec
  have hd := digitB_spec (t % 10) (Nat.mod_lt _ (by decide))
  have hws : ∀ b ∈ natDec (t / 10) ++ 46 :: [digitB (t % 10)], isWs b = false := by
    intro b hb
    rcases List.mem_append.mp hb with hb | hb
    · exact natDec_noWs _ b hb
    · rcases List.mem_cons.mp hb with rfl | hb
      · decide
      · simp at hb; subst hb; exact isDigit_not_ws hd.1
  rw [strip_id _ hws, splitOn_append_sep _ fun hc => ne_of_class (natDec_digits _ _ hc) (by decide) rfl,
    splitOn_noSep (by simpa using (ne_of_class hd.1 (by decide)).symm)]
  have hne : natDec (t / 10) ≠ [] := by obtain ⟨b, r, h, _⟩ := natDec_head (t / 10); simp [h]
  simp only [hd, if_true, digitsNE, hne, if_false, digitsVal_natDec, Option.map_some]
  congr 1; omega

theorem isNoneCI_quotePlus {safe : UInt8 → Bool} (hs : SafeOk safe) {s : Bytes} (h : isNoneCI s = false) :
    isNoneCI (quotePlus safe s) = false := by
  cases hq : isNoneCI (quotePlus safe s) with
  | false => rfl
  | true =>
    -- a none-like text consists of letters, so it is its own decoding
    have := unquotePlus_id _ fun c hc =>
      ⟨ne_of_class (isNoneCI_alpha hq hc) (by decide), ne_of_class (isNoneCI_alpha hq hc) (by decide)⟩
    rw [unquotePlus_quotePlus hs] at this
    rw [← this, h] at hq
    cases hq

/-- the DRM selections that round-trip: an unknown system is what `check_option_values` refuses
(`drmNamesOk`), an empty set of locations is written like all of them (`drmItemText`) -/
def CanonDrm (v : List (Bytes × LocSet)) : Prop := ∀ e ∈ v, e.1 ∈ drmNames ∧ e.2 ≠ LocSet.empty

theorem drm_loc_names_plain : ∀ n ∈ drmNames ++ locNames.map Prod.fst, ∀ b ∈ n, b ≠ 45 ∧ b ≠ 44 ∧ lowerB b = b := by
  unfold drmNames locNames
  rw [ascii_eq_fast]
  decide +kernel

/-- not `n`, not `a`: the text of a selection starts neither like `none` nor like `all` -/
theorem drmNames_head : ∀ n ∈ drmNames, ∃ b r, n = b :: r ∧ b ≠ 110 ∧ b ≠ 97 := by
  have h : ∀ n ∈ drmNames, n.head? ∉ [none, some 110, some 97] := by decide +kernel
  intro n hn
  cases n with
  | nil => exact absurd (h _ hn) (by simp)
  | cons b r => exact ⟨b, r, rfl, by simpa using h _ hn⟩

theorem mem_names {l : LocSet} {n : Bytes} (h : n ∈ l.names) : n ∈ locNames.map Prod.fst := by
  simp only [LocSet.names, List.mem_append] at h
  rcases h with (h | h) | h <;> split at h <;> simp_all [locNames]

theorem locSetOf_names (l : LocSet) : locSetOf .valueError l.names = .ok l := by
  obtain ⟨c, m, p⟩ := l
  cases c <;> cases m <;> cases p <;> rfl

theorem names_ne_nil {l : LocSet} (h : l ≠ LocSet.empty) : l.names ≠ [] := by
  obtain ⟨c, m, p⟩ := l
  cases c <;> cases m <;> cases p <;> simp_all [LocSet.names, LocSet.empty]

theorem drmItemText_all {e : Bytes × LocSet} (h : e.2 = LocSet.all) : drmItemText e = e.1 := by
  simp [drmItemText, h]

theorem drmItemText_join {e : Bytes × LocSet} (h : e.2 ≠ LocSet.all) :
    drmItemText e = joinWith 45 (e.1 :: e.2.names) := by
  simp [drmItemText, h]

theorem drmItem_parts {e : Bytes × LocSet} (he : e.1 ∈ drmNames) :
    ∀ n ∈ e.1 :: e.2.names, ∀ b ∈ n, b ≠ 45 ∧ b ≠ 44 ∧ lowerB b = b := by
  intro n hn
  rcases List.mem_cons.mp hn with rfl | hn
  · exact drm_loc_names_plain _ (List.mem_append_left _ he)
  · exact drm_loc_names_plain _ (List.mem_append_right _ (mem_names hn))

theorem drmItemText_bytes {e : Bytes × LocSet} (he : e.1 ∈ drmNames) :
    ∀ b ∈ drmItemText e, b ≠ 44 ∧ lowerB b = b := by
  intro b hb
  by_cases hall : e.2 = LocSet.all
  · rw [drmItemText_all hall] at hb
    exact (drmItem_parts he _ (List.mem_cons_self ..) b hb).2
  · rw [drmItemText_join hall] at hb
    rcases mem_joinWith hb with rfl | ⟨n, hn, hb⟩
    · decide
    · exact (drmItem_parts he n hn b hb).2

theorem drmItemText_head {e : Bytes × LocSet} (he : e.1 ∈ drmNames) :
    ∃ b r, drmItemText e = b :: r ∧ b ≠ 110 ∧ b ≠ 97 := by
  obtain ⟨b, r, hn, hb⟩ := drmNames_head e.1 he
  by_cases hall : e.2 = LocSet.all
  · exact ⟨b, r, by rw [drmItemText_all hall, hn], hb⟩
  · obtain ⟨r', hr'⟩ := joinWith_head 45 b r e.2.names
    exact ⟨b, r', by rw [drmItemText_join hall, hn, hr'], hb⟩

theorem drmItemText_has45 {e : Bytes × LocSet} (h : e.2 ≠ LocSet.all) (hne : e.2 ≠ LocSet.empty) :
    (45 : UInt8) ∈ drmItemText e := by
  rw [drmItemText_join h]
  cases hnm : e.2.names with
  | nil => exact absurd hnm (names_ne_nil hne)
  | cons q qs => simp [joinWith]

theorem drmItem_text {e : Bytes × LocSet} (he : e.1 ∈ drmNames) (hne : e.2 ≠ LocSet.empty) :
    drmItem (drmItemText e) = .ok e := by
  have h45 : ∀ n ∈ e.1 :: e.2.names, (45 : UInt8) ∉ n := fun n hn hm => (drmItem_parts he n hn 45 hm).1 rfl
  unfold drmItem
  by_cases hall : e.2 = LocSet.all
  · rw [drmItemText_all hall, if_neg (by simpa using h45 _ (List.mem_cons_self ..)), ← hall]
  · rw [if_pos (by simpa using drmItemText_has45 hall hne), drmItemText_join hall,
      splitOn_joinWith 45 _ (by simp) h45]
    simp only [locSetOf_names]
    rfl

theorem drm_roundtrip_list (v : List (Bytes × LocSet)) (hv : CanonDrm v) :
    drmFromString (joinWith 44 (v.map drmItemText)) = .ok v := by
  cases v with
  | nil => rfl
  | cons e r =>
    have hitems : ∀ x ∈ (e :: r).map drmItemText, ∀ b ∈ x, b ≠ 44 ∧ lowerB b = b := by
      intro x hx
      obtain ⟨y, hy, rfl⟩ := List.mem_map.mp hx
      exact drmItemText_bytes (hv y hy).1
    have hbytes : ∀ b ∈ joinWith 44 ((e :: r).map drmItemText), lowerB b = b := by
      intro b hb
      rcases mem_joinWith hb with rfl | ⟨x, hx, hb⟩
      · decide
      · exact (hitems x hx b hb).2
    have hlow : lower (joinWith 44 ((e :: r).map drmItemText)) = joinWith 44 ((e :: r).map drmItemText) :=
      (List.map_congr_left hbytes).trans (List.map_id _)
    obtain ⟨b, t, ht, hb1, hb2⟩ := drmItemText_head (hv e (by simp)).1
    obtain ⟨t', hhead⟩ : ∃ t', joinWith 44 ((e :: r).map drmItemText) = b :: t' := by
      simp only [List.map_cons, ht]; exact joinWith_head 44 b t _
    unfold drmFromString
    simp only [hlow]
    rw [hhead]
    have h1 : startsWith tNone (b :: t') = false := by
      rw [show tNone = [110, 111, 110, 101] by decide]; simp [startsWith, hb1]
    have h2 : startsWith (ascii "all") (b :: t') = false := by
      rw [show ascii "all" = [97, 108, 108] by decide]; simp [startsWith, hb2]
    have h3 : ((b :: t') == ([] : Bytes)) = false := by simp
    simp only [h1, h2, h3, Bool.or_self, Bool.false_eq_true, if_false]
    rw [← hhead, splitOn_joinWith 44 _ (by simp) (fun x hx hm => (hitems x hx 44 hm).1 rfl)]
    exact mapM_map_ok _ fun x hx => drmItem_text (hv x hx).1 (hv x hx).2

theorem isAllDrm_spec (v : List (Bytes × LocSet)) (hv : CanonDrm v)
    (h : isAllDrm (v.map drmItemText) = true) :
    ∀ e, e ∈ drmNames.map (·, LocSet.all) ↔ e ∈ v := by
  have h1 : ∀ y ∈ v, drmItemText y ∈ drmNames := by simpa [isAllDrm] using ((Bool.and_eq_true _ _).mp h).1
  have h2 : ∀ n ∈ drmNames, ∃ y ∈ v, drmItemText y = n := by simpa [isAllDrm] using ((Bool.and_eq_true _ _).mp h).2
  -- an item with a proper subset of locations is written with a `-`, which no system name has
  have key : ∀ y ∈ v, y.2 = LocSet.all := by
    intro y hy
    by_cases hall : y.2 = LocSet.all
    · exact hall
    · exact absurd (drmItemText_has45 hall (hv y hy).2)
        fun hm => (drm_loc_names_plain _ (List.mem_append_left _ (h1 y hy)) 45 hm).1 rfl
  intro e
  constructor
  · intro he
    obtain ⟨n, hn, rfl⟩ := List.mem_map.mp he
    obtain ⟨y, hy, e'⟩ := h2 n hn
    rw [drmItemText_all (key y hy)] at e'
    rwa [← e', ← key y hy]
  · intro he
    have := h1 e he
    rw [drmItemText_all (key e he)] at this
    exact List.mem_map.mpr ⟨e.1, this, by rw [← key e he]⟩

theorem locSetOf_nonempty {e : Err} {n : Bytes} {r : List Bytes} {s : LocSet}
    (h : locSetOf e (n :: r) = .ok s) : s ≠ LocSet.empty := by
  unfold locSetOf at h
  split at h
  · cases h
  · rename_i l hl
    obtain ⟨a, _, rfl⟩ := exceptMap_ok h
    obtain ⟨l₁, l₂, hm, _⟩ := List.lookup_eq_some_iff.mp hl
    have hne : ∀ p ∈ locNames, p.2 ≠ LocSet.empty := by decide
    have := hne (n, l) (by rw [hm]; simp)
    obtain ⟨c, m, p⟩ := l
    obtain ⟨c', m', p'⟩ := a
    simp only [LocSet.union, LocSet.empty, ne_eq, LocSet.mk.injEq, Bool.or_eq_false_iff] at this ⊢
    exact fun ⟨h1, h2, h3⟩ => this ⟨h1.1, h2.1, h3.1⟩

theorem LocSet.all_ne_empty : LocSet.all ≠ LocSet.empty := by decide

theorem locSetOf_tail_nonempty {e : Err} {s : Bytes} {ls : LocSet} (hc : s.contains 45 = true)
    (h : locSetOf e (splitOn 45 s).tail = .ok ls) : ls ≠ LocSet.empty := by
  obtain ⟨p, ps, hs, _, hm⟩ := splitOn_spec 45 s
  obtain ⟨q, qs, rfl⟩ := hm (List.contains_iff_mem.mp hc)
  rw [hs] at h
  exact locSetOf_nonempty h

theorem drmItem_locs {item : Bytes} {e : Bytes × LocSet} (h : drmItem item = .ok e) : e.2 ≠ LocSet.empty := by
  unfold drmItem at h
  split at h
  · rename_i hc
    split at h
    · cases h
      exact LocSet.all_ne_empty
    · rename_i d locs hs
      obtain ⟨s, hs', rfl⟩ := exceptMap_ok h
      exact locSetOf_tail_nonempty hc (by rw [hs]; exact hs')
  · cases h
    exact LocSet.all_ne_empty

theorem drmFromString_locs {s : Bytes} {l : List (Bytes × LocSet)} (h : drmFromString s = .ok l) :
    ∀ e ∈ l, e.2 ≠ LocSet.empty := by
  unfold drmFromString at h
  simp only at h
  split at h
  · cases h; simp
  · split at h
    · split at h
      · rename_i hc
        obtain ⟨ls, hls, rfl⟩ := exceptMap_ok h
        intro e hmem
        obtain ⟨n, _, rfl⟩ := List.mem_map.mp hmem
        exact locSetOf_tail_nonempty hc (List.drop_one ▸ hls)
      · cases h
        intro e hmem
        obtain ⟨n, _, rfl⟩ := List.mem_map.mp hmem
        exact LocSet.all_ne_empty
    · intro e he
      obtain ⟨x, _, hx⟩ := mapM_ok_mem drmItem _ l h e he
      exact drmItem_locs hx

/-- what C07 needs to know about the ISO-8601 date-time text codec
(`to_iso_datetime` / `from_isodatetime`).  `roundtrip` is C19's theorem; the
other three say that a rendered date-time starts with a digit, contains neither
`,` nor `=`, and is not a decimal integer (it contains `-`/`:`/`T`). -/
structure DtCodecLaws {DT : Type} (C : DTCodec DT) : Prop where
  roundtrip : DtTextRoundTrip C
  digitFirst : ∀ d, ∃ b r, C.render d = b :: r ∧ isDigit b = true
  clean : ∀ d, (44 : UInt8) ∉ C.render d ∧ (61 : UInt8) ∉ C.render d
  notInt : ∀ d, pyInt (C.render d) = none

section
variable {DT : Type} (C : DTCodec DT)

theorem parseDT_render (hC : DtCodecLaws C) (d : DT) : parseDT C (C.render d) = .ok (some d) := by
  obtain ⟨b, r, h, _⟩ := hC.digitFirst d
  rw [parseDT, if_neg (by simp [h]), hC.roundtrip d]

theorem isNoneCI_render (hC : DtCodecLaws C) (d : DT) : isNoneCI (C.render d) = false := by
  obtain ⟨b, r, h, hb⟩ := hC.digitFirst d
  rw [h]; exact isNoneCI_false_of_mem (List.mem_cons_self ..) (isDigit_not_alpha hb)

theorem specialAst_not_render (hC : DtCodecLaws C) (d : DT) : C.render d ∉ specialAst := by
  obtain ⟨b, r, h, hb⟩ := hC.digitFirst d
  have hs : ∀ s ∈ specialAst, ∀ c ∈ s, isAlpha c = true := by decide +kernel
  intro hm
  have := hs _ hm b (by rw [h]; simp)
  rw [isDigit_not_alpha hb] at this
  cases this

def errItemText (e : Int × Pos DT) : Bytes := intDec e.1 ++ 61 :: posText C e.2

/-! The laws are asked for only where a position is a date-time: a list of segment numbers round-trips
through any codec (`inject_roundtrip_errors`). -/

theorem posText_clean (p : Pos DT) (hC : DtCodecLaws C ∨ ∀ d, p ≠ .at d) :
    (44 : UInt8) ∉ posText C p ∧ (61 : UInt8) ∉ posText C p := by
  cases p with
  | num z => exact ⟨intDec_noComma z, intDec_noEq z⟩
  | «at» d => exact (hC.resolve_right fun h => h d rfl).clean d
  | nothing => simp [posText]

theorem errItem_text (e : Int × Pos DT) (hC : DtCodecLaws C ∨ ∀ d, e.2 ≠ .at d) :
    errItem C (errItemText C e) = .ok e := by
  obtain ⟨c, p⟩ := e
  unfold errItem errItemText
  rw [splitOn_append_sep _ (intDec_noEq c), splitOn_noSep (posText_clean C p hC).2]
  cases p with
  | num z => simp [posText, pyInt_intDec]
  | «at» d =>
    have hC := hC.resolve_right fun h => h d rfl
    simp [posText, hC.notInt d, parseDT_render C hC d, pyInt_intDec]
  | nothing => simp [posText, show pyInt [] = none from rfl, parseDT, pyInt_intDec]

theorem errItemText_noComma (e : Int × Pos DT) (hC : DtCodecLaws C ∨ ∀ d, e.2 ≠ .at d) :
    (44 : UInt8) ∉ errItemText C e := by
  simp only [errItemText, List.mem_append, List.mem_cons, not_or]
  exact ⟨intDec_noComma e.1, by decide, (posText_clean C e.2 hC).1⟩

/-- `_errors_from_string(_errors_to_string(l)) = l` -/
theorem errorList_roundtrip (l : List (Int × Pos DT)) (hC : DtCodecLaws C ∨ ∀ e ∈ l, ∀ d, e.2 ≠ .at d) :
    fromString C .errorList (errText C l) = .ok (.errs l) := by
  unfold fromString
  cases l with
  | nil => rfl
  | cons e r =>
    rw [show errText C (e :: r) = joinWith 44 ((e :: r).map (errItemText C)) from rfl]
    have hitem : ∀ x ∈ e :: r, DtCodecLaws C ∨ ∀ d, x.2 ≠ .at d := fun x hx => hC.imp id fun h => h x hx
    obtain ⟨b, t, ht, hb⟩ := intDec_head e.1
    obtain ⟨t', hhead⟩ := joinWith_head 44 b (t ++ 61 :: posText C e.2) (r.map (errItemText C))
    have hn : isNoneCI (joinWith 44 ((e :: r).map (errItemText C))) = false := by
      rw [List.map_cons, errItemText, ht, List.cons_append, hhead]
      exact isNoneCI_false_of_mem (List.mem_cons_self ..) hb
    have hcomma : ∀ x ∈ (e :: r).map (errItemText C), (44 : UInt8) ∉ x := by
      intro x hx
      obtain ⟨y, hy, rfl⟩ := List.mem_map.mp hx
      exact errItemText_noComma C y (hitem y hy)
    simp only [hn, Bool.false_eq_true, if_false]
    rw [splitOn_joinWith 44 _ (by simp) hcomma, mapM_map_ok _ fun x hx => errItem_text C x (hitem x hx)]
    rfl

end

theorem safeQuery_ok : SafeOk safeQuery := ⟨by decide, by decide⟩
theorem safeNone_ok : SafeOk safeNone := ⟨rfl, rfl⟩

/-- a parameter name that needs no escaping: non-empty, only unreserved characters -/
def KeyOk (k : String) : Prop := ascii k ≠ [] ∧ ∀ b ∈ ascii k, isUnreserved b = true

theorem not_mem_renderPair {p : String × Option Bytes} (hk : KeyOk p.1) {c : UInt8}
    (hu : isUnreserved c = false) (hc : c ∉ ([61, 58, 44, 43, 37] : Bytes)) : c ∉ renderPair p := by
  intro h
  rcases List.mem_append.mp h with h | h
  · exact absurd (hk.2 c h) (by simp [hu])
  · rcases List.mem_cons.mp h with rfl | h
    · simp at hc
    · rcases mem_quotePlus h with h | h | rfl | rfl
      · exact absurd h (by simp [hu])
      · simp only [safeQuery, Bool.or_eq_true, beq_iff_eq] at h
        rcases h with rfl | rfl <;> simp at hc
      · simp at hc
      · simp at hc

/-- parsing the query text that `dict_to_cgi_params` writes for `S` gives back the
names and exactly the texts of `S`, in the same order -/
theorem parseQsl_render (S : List (String × Option Bytes)) (hS : ∀ p ∈ S, KeyOk p.1) :
    parseQsl (joinWith 38 (S.map renderPair)) = S.map (fun p => (ascii p.1, cgiText p.2)) := by
  unfold parseQsl
  by_cases hne : S = []
  · subst hne; simp [joinWith, splitOn]
  · have hamp : ∀ x ∈ S.map renderPair, (38 : UInt8) ∉ x := by
      intro x hx
      obtain ⟨p, hp, rfl⟩ := List.mem_map.mp hx
      exact not_mem_renderPair (hS p hp) (by decide) (by decide)
    rw [splitOn_joinWith 38 _ (by simpa using hne) hamp]
    clear hne hamp
    induction S with
    | nil => rfl
    | cons p r ih =>
      have hk := (hS p (by simp)).2
      -- the name has no `=`, `+`, `%`: it is cut off at the `=` written after it and decoded to itself
      have hcut : splitFirst 61 (renderPair p) = (ascii p.1, some (quotePlus safeQuery (cgiText p.2))) :=
        splitFirst_append _ fun h => ne_of_class (hk _ h) (by decide) rfl
      have hname : unquotePlus (ascii p.1) = ascii p.1 := unquotePlus_id _ fun b hb =>
        ⟨ne_of_class (hk b hb) (by decide), ne_of_class (hk b hb) (by decide)⟩
      have hne : renderPair p ≠ [] := by simp [renderPair]
      simp only [List.map_cons, List.filterMap_cons, hne, if_false, hcut, Option.getD_some, hname,
        unquotePlus_quotePlus safeQuery_ok, ih (fun x hx => hS x (by simp [hx]))]

theorem firstOnly_id (l : List (Bytes × Bytes)) (h : (l.map Prod.fst).Nodup) : firstOnly l = l := by
  induction l with
  | nil => rfl
  | cons p r ih =>
    have hn := List.nodup_cons.mp h
    simp only [firstOnly]
    rw [ih hn.2]
    congr 1
    apply List.filter_eq_self.mpr
    intro q hq
    have : q.1 ≠ p.1 := fun e => hn.1 (by rw [← e]; exact List.mem_map_of_mem hq)
    simp [this]

theorem queryOf_render (path : Bytes) (hp : (35 : UInt8) ∉ path ∧ (63 : UInt8) ∉ path)
    (P : List (String × Option Bytes)) (hP : ∀ p ∈ P, KeyOk p.1) :
    queryOf (path ++ renderQuery P) = joinWith 38 ((P.mergeSort keyLe).map renderPair) := by
  unfold queryOf renderQuery
  split
  · rw [List.append_nil, splitFirst_noSep hp.1, splitFirst_noSep hp.2]
    simp_all [joinWith]
  · have h35 : (35 : UInt8) ∉ path ++ 63 :: joinWith 38 ((P.mergeSort keyLe).map renderPair) := by
      simp only [List.mem_append, List.mem_cons, not_or]
      refine ⟨hp.1, by decide, fun hm => ?_⟩
      obtain ⟨x, hx, h⟩ := (mem_joinWith hm).resolve_left (by decide)
      obtain ⟨p, hp', rfl⟩ := List.mem_map.mp hx
      exact not_mem_renderPair (hP p ((List.mergeSort_perm P keyLe).mem_iff.mp hp')) (by decide) (by decide) h
    rw [splitFirst_noSep h35]
    simp only
    rw [splitFirst_append _ hp.2]
    rfl

section
variable {DT : Type} (C : DTCodec DT)

/-- the values an option of kind `k` can hold (the image of its `from_string`, with
floats restricted to non-negative multiples of 0.1) – the domain of the round trip -/
def Canonical : Kind → Val DT → Prop
  | .bool, .bool _ => True
  | .intOrNone, .none => True
  | .intOrNone, .int _ => True
  | .floatOrNone, .none => True
  | .floatOrNone, .tenths _ => True
  | .strOrNone, .none => True
  | .strOrNone, .str s => isNoneCI s = false
  | .strRaw, .str _ => True
  | .listJoin, .list l => ∀ i ∈ l, (44 : UInt8) ∉ i ∧ isNoneCI i = false
  | .drmSelection, .drm v => CanonDrm v
  | .quotedUrl, .none => True
  | .quotedUrl, .str s => isNoneCI s = false
  | .astDateTime, .none => True
  | .astDateTime, .str s => s ∈ specialAst
  | .astDateTime, .dt _ => True
  | .dtOrNone, .none => True
  | .dtOrNone, .dt _ => True
  | .errorList, .errs _ => True
  | .intOrDefault _, .int _ => True
  | .posIntOrDefault _, .int z => 1 ≤ z
  | _, _ => False

/-- "the identical option value": equality, except that a DRM selection is the
set of its (system, locations) entries -/
def ValEquiv : Val DT → Val DT → Prop
  | .drm a, .drm b => ∀ e, e ∈ a ↔ e ∈ b
  | a, b => a = b

theorem ValEquiv.refl (v : Val DT) : ValEquiv v v := by
  cases v <;> simp [ValEquiv]

theorem ValEquiv.of_eq {a b : Val DT} (h : a = b) : ValEquiv a b := h ▸ ValEquiv.refl b

theorem ValEquiv_iff_eq (a b : Val DT) (h : ∀ l, b ≠ .drm l) : ValEquiv a b ↔ a = b := by
  cases a with
  | drm l => cases b <;> first | exact absurd rfl (h _) | exact Iff.rfl
  | _ => exact Iff.rfl

theorem isNoneCS_nil : isNoneCS [] = true := by decide

/-- what `from_string` returns is a canonical value of its kind – with three explicit corners:
an escaped licence URL that un-escapes to a spelling of `none`, a positive-integer option whose
own default is not positive, and a DRM selection naming an unknown system (which
`check_option_values` refuses) -/
theorem fromString_canonical (k : Kind) (s : Bytes) (v : Val DT) (h : fromString C k s = .ok v)
    (hurl : k = .quotedUrl → isNoneCI s = false → isNoneCI (unquotePlus s) = false)
    (hpos : ∀ d, k = .posIntOrDefault d → 1 ≤ d)
    (hdrm : k = .drmSelection → ∀ l, v = .drm l → ∀ e ∈ l, e.1 ∈ drmNames) : Canonical k v := by
  cases k <;> simp only [fromString] at h
  case bool | strRaw => cases h; trivial
  case intOrNone | intOrDefault =>
    obtain ⟨a, _, rfl⟩ := exceptMap_ok h
    cases a <;> trivial
  case floatOrNone =>
    split at h
    · cases h; trivial
    · split at h <;> cases h
      trivial
  case strOrNone =>
    cases h
    split
    · trivial
    · rename_i hn; simpa [Canonical] using hn
  case quotedUrl =>
    cases h
    split
    · trivial
    · rename_i hn; exact hurl rfl (by simpa using hn)
  case listJoin =>
    cases h
    split
    · simp [Canonical]
    · intro i hi
      obtain ⟨p, ps, hs, hq, _⟩ := splitOn_spec 44 s
      have := List.mem_filter.mp hi
      exact ⟨hq i (hs ▸ this.1), by simpa using this.2⟩
  case drmSelection =>
    obtain ⟨l, hl, rfl⟩ := exceptMap_ok h
    exact fun e he => ⟨hdrm rfl l rfl e he, drmFromString_locs hl e he⟩
  case astDateTime =>
    split at h
    · rename_i hkeyword
      cases h
      simpa [Canonical] using hkeyword
    · obtain ⟨a, _, rfl⟩ := exceptMap_ok h
      cases a <;> trivial
  case dtOrNone | errorList =>
    split at h
    · cases h; trivial
    · obtain ⟨a, _, rfl⟩ := exceptMap_ok h
      cases a <;> trivial
  case posIntOrDefault d =>
    split at h
    · cases h
    · cases h; exact hpos d rfl
    · rename_i z _
      split at h <;> cases h
      show 1 ≤ z; omega

theorem findRow_spec {tbl : List OptionRow} {k : Bytes} {i : Nat} (h : findRow tbl k = some i) :
    ∃ r, tbl[i]? = some r ∧ ascii r.cgi = k := by
  obtain ⟨r, hr, hp⟩ := findIdx?_some h
  exact ⟨r, hr, by simpa using hp⟩

theorem fieldIdx_spec {tbl : List OptionRow} {name : String} {i : Nat} (h : fieldIdx tbl name = some i) :
    ∃ r, tbl[i]? = some r ∧ r.fieldName = name := by
  obtain ⟨r, hr, hp⟩ := findIdx?_some h
  exact ⟨r, hr, by simpa using hp⟩

theorem fieldIdx_of_get {tbl : List OptionRow} (hnd : (tbl.map OptionRow.fieldName).Nodup) {i : Nat}
    {r : OptionRow} (h : tbl[i]? = some r) : fieldIdx tbl r.fieldName = some i :=
  findIdx?_key OptionRow.fieldName hnd h

theorem globalDefault_ast_canonical (tbl : List OptionRow) (i : Nat) (r : OptionRow)
    (hr : tbl[i]? = some r) (hk : r.kind = .astDateTime)
    (hd : r.dflt ∈ ["now", "today", "month", "year", "epoch"]) :
    Canonical r.kind (globalDefault C tbl i) := by
  have hs : ascii r.dflt ∈ specialAst := List.mem_map_of_mem (f := ascii) hd
  have hdv : defaultVal C r = .ok (.str (ascii r.dflt)) := by
    simp [defaultVal, hk, fromString, hs]
  simp only [globalDefault, hr, hdv, hk]
  exact hs

def TableOk (tbl : List OptionRow) : Prop :=
  (∀ r ∈ tbl, KeyOk r.cgi) ∧ (tbl.map (fun r => ascii r.cgi)).Nodup

theorem tableOk_of_utf8 (tbl : List OptionRow)
    (h : (∀ r ∈ tbl, utf8 r.cgi ≠ [] ∧ ∀ b ∈ utf8 r.cgi, b < 128 ∧ isUnreserved b = true) ∧
      ((tbl.map fun r => utf8 r.cgi).map natKey).Nodup) : TableOk tbl := by
  have he : ∀ r ∈ tbl, ascii r.cgi = utf8 r.cgi := fun r hr => ascii_eq_utf8 _ fun b hb => ((h.1 r hr).2 b hb).1
  constructor
  · intro r hr
    rw [KeyOk, he r hr]
    exact ⟨(h.1 r hr).1, fun b hb => ((h.1 r hr).2 b hb).2⟩
  · rw [List.map_congr_left he]
    exact nodup_of_map natKey h.2

theorem findRow_of_get {tbl : List OptionRow} (ht : TableOk tbl) {i : Nat} {r : OptionRow}
    (h : tbl[i]? = some r) : findRow tbl (ascii r.cgi) = some i :=
  findIdx?_key (fun r : OptionRow => ascii r.cgi) ht.2 h

theorem table_cgi_nodup {tbl : List OptionRow} (ht : TableOk tbl) : (tbl.map (·.cgi)).Nodup :=
  nodup_of_map ascii (by rw [List.map_map]; exact ht.2)

theorem row_unique {tbl : List OptionRow} (ht : TableOk tbl) {i j : Nat} {r s : OptionRow}
    (hi : tbl[i]? = some r) (hj : tbl[j]? = some s) (h : ascii r.cgi = ascii s.cgi) : i = j ∧ r = s := by
  obtain rfl : j = i := Option.some.inj ((findRow_of_get ht hj).symm.trans (h ▸ findRow_of_get ht hi))
  exact ⟨rfl, Option.some.inj (hi.symm.trans hj)⟩

theorem convertStep_ok {tbl : List OptionRow} {acc acc' : Nat → Val DT} {kv : Bytes × Bytes}
    (h : convertStep C tbl acc kv = .ok acc') :
    acc' = acc ∨ ∃ i r v, findRow tbl kv.1 = some i ∧ tbl[i]? = some r ∧
      fromString C r.kind kv.2 = .ok v ∧ acc' = setField acc i v := by
  unfold convertStep at h
  split at h
  · cases h; exact Or.inl rfl
  · rename_i i hf
    split at h
    · cases h; exact Or.inl rfl
    · rename_i r hr
      split at h
      · rename_i v hv
        cases h
        exact Or.inr ⟨i, r, v, hf, hr, hv, rfl⟩
      · cases h; exact Or.inl rfl
      · cases h

theorem convertOptions_spec (tbl : List OptionRow) (A : List (Bytes × Bytes))
    (hA : (A.map Prod.fst).Nodup) (dflt : Nat → Val DT)
    (hok : ∀ kv ∈ A, ∃ i r v, findRow tbl kv.1 = some i ∧ tbl[i]? = some r ∧
      fromString C r.kind kv.2 = .ok v) :
    ∃ res, convertOptions C tbl dflt A = .ok res ∧
      (∀ i, (∀ kv ∈ A, findRow tbl kv.1 ≠ some i) → res i = dflt i) ∧
      (∀ kv ∈ A, ∀ i r, findRow tbl kv.1 = some i → tbl[i]? = some r →
        fromString C r.kind kv.2 = .ok (res i)) := by
  induction A generalizing dflt with
  | nil => exact ⟨dflt, rfl, fun _ _ => rfl, fun kv h => by simp at h⟩
  | cons kv rest ih =>
    obtain ⟨i, r, v, hf, hr, hv⟩ := hok kv (by simp)
    have hn : kv.1 ∉ rest.map Prod.fst ∧ (rest.map Prod.fst).Nodup := List.nodup_cons.mp hA
    have hstep : convertStep C tbl dflt kv = .ok (setField dflt i v) := by
      unfold convertStep; simp [hf, hr, hv]
    obtain ⟨res, hres, hdef, hval⟩ := ih hn.2 (setField dflt i v)
      (fun x hx => hok x (by simp [hx]))
    refine ⟨res, by simp only [convertOptions, hstep, hres], ?_, ?_⟩
    · intro j hj
      have hji : j ≠ i := fun e => hj kv (by simp) (by rw [e]; exact hf)
      rw [hdef j (fun x hx => hj x (by simp [hx]))]
      simp [setField, hji]
    · intro x hx j rj hfj hrj
      rcases List.mem_cons.mp hx with rfl | hx
      · obtain rfl : i = j := Option.some.inj (hf.symm.trans hfj)
        obtain rfl : r = rj := Option.some.inj (hr.symm.trans hrj)
        -- no later parameter names the same option
        have : res i = setField dflt i v i := by
          apply hdef i
          intro y hy hfy
          obtain ⟨r1, h1, e1⟩ := findRow_spec hf
          obtain ⟨r2, h2, e2⟩ := findRow_spec hfy
          rw [h1] at h2; cases h2
          exact hn.1 (by rw [← e1, e2]; exact List.mem_map_of_mem hy)
        rw [this]; simp [setField, hv]
      · exact hval x hx j rj hfj hrj

theorem convertOptions_origin (tbl : List OptionRow) (A : List (Bytes × Bytes)) (dflt res : Nat → Val DT)
    (h : convertOptions C tbl dflt A = .ok res) (i : Nat) :
    res i = dflt i ∨ ∃ kv ∈ A, ∃ r, findRow tbl kv.1 = some i ∧ tbl[i]? = some r ∧
      fromString C r.kind kv.2 = .ok (res i) := by
  induction A generalizing dflt with
  | nil => cases h; exact Or.inl rfl
  | cons kv rest ih =>
    simp only [convertOptions] at h
    split at h
    · cases h
    · rename_i acc hs
      rcases ih acc h with h1 | ⟨x, hx, r, hf, hr, hv⟩
      · -- the value is what the step left: the field as it was, or the parsed argument
        rcases convertStep_ok C hs with rfl | ⟨j, r, v, hf, hr, hv, rfl⟩
        · exact Or.inl h1
        · by_cases e : i = j
          · subst e
            exact Or.inr ⟨kv, by simp, r, hf, hr, by rw [h1]; simp [setField, hv]⟩
          · left; rw [h1]; simp [setField, e]
      · exact Or.inr ⟨x, by simp [hx], r, hf, hr, hv⟩

end

section
variable {DT : Type} [DecidableEq DT] (C : DTCodec DT) {use : Option Nat} {exclude : List String}
  {rd : Bool} {dflt o : Opts DT}

/-- when `_generate_parameters_dict` writes an entry for a row -/
theorem emit_some_iff {r : OptionRow} {i : Nat} {p : String × Option Bytes} :
    emit C use exclude rd dflt o r i = some p ↔
      ∃ v, o i = some v ∧ exclude.contains r.fieldName = false ∧ (rd && dflt i == some v) = false ∧
        useMiss use r.usage = false ∧
        (r.cgi, toText C r.kind v) = p := by
  unfold emit
  cases ho : o i with
  | none => simp
  | some v =>
    simp only [Option.some.injEq, exists_eq_left']
    cases h1 : exclude.contains r.fieldName <;> cases h2 : (rd && dflt i == some v) <;>
      cases h3 : useMiss use r.usage <;> simp

theorem mem_genFrom {rows : List OptionRow} {i0 : Nat} {p : String × Option Bytes} :
    p ∈ genFrom C use exclude rd dflt o i0 rows ↔
      ∃ j r, rows[j]? = some r ∧ emit C use exclude rd dflt o r (i0 + j) = some p := by
  induction rows generalizing i0 with
  | nil => simp [genFrom]
  | cons r rs ih =>
    simp only [genFrom, List.mem_append, ih]
    constructor
    · rintro (h | ⟨j, r', hj, he⟩)
      · refine ⟨0, r, rfl, ?_⟩
        split at h <;> simp_all
      · exact ⟨j + 1, r', hj, by rwa [Nat.add_assoc, Nat.add_comm 1] at he⟩
    · rintro ⟨_ | j, r', hj, he⟩
      · obtain rfl : r = r' := by simpa using hj
        rw [Nat.add_zero] at he
        simp [he]
      · exact Or.inr ⟨j, r', hj, by rwa [Nat.add_assoc, Nat.add_comm 1]⟩

/-- `rd` is `removeDefaults`: the media URLs are written with `true`, and only then does a container
that holds nothing but defaults give `[]` -/
theorem mem_genParams {tbl : List OptionRow} {p : String × Option Bytes} :
    p ∈ genParams C tbl use exclude rd dflt o ↔
      ∃ i r v, tbl[i]? = some r ∧ o i = some v ∧ exclude.contains r.fieldName = false ∧
        (rd = true → dflt i ≠ some v) ∧ (∀ u, use = some u → r.usage &&& u ≠ 0) ∧
        (r.cgi, toText C r.kind v) = p := by
  cases use <;> simp [genParams, mem_genFrom, emit_some_iff, useMiss]

/-- every row writes at most one entry, under its own name -/
theorem genFrom_keys_nodup (rows : List OptionRow) (i0 : Nat) (h : (rows.map (·.cgi)).Nodup) :
    ((genFrom C use exclude rd dflt o i0 rows).map Prod.fst).Nodup := by
  refine List.Nodup.sublist ?_ h
  clear h
  induction rows generalizing i0 with
  | nil => simp [genFrom]
  | cons r rs ih =>
    simp only [genFrom, List.map_append, List.map_cons]
    cases he : emit C use exclude rd dflt o r i0 with
    | none => exact (ih _).cons _
    | some q =>
      obtain ⟨v, _, _, _, _, rfl⟩ := (emit_some_iff C).mp he
      exact (ih _).cons_cons _

end

theorem mem_setParam {ps : List (String × Option Bytes)} {k : String} {t : Bytes} {p : String × Option Bytes} :
    p ∈ setParam ps k t ↔ (p ∈ ps ∧ p.1 ≠ k) ∨ p = (k, some t) := by
  simp [setParam, List.mem_append, List.mem_filter]

theorem setParam_keys_nodup {ps : List (String × Option Bytes)} (k : String) (t : Bytes)
    (h : (ps.map Prod.fst).Nodup) : ((setParam ps k t).map Prod.fst).Nodup := by
  -- the entries that stay keep distinct names, none of them `k`; the new entry comes last
  unfold setParam
  rw [List.map_append]
  refine List.nodup_append.mpr ⟨List.Nodup.sublist ((List.filter_sublist).map Prod.fst) h, by simp, ?_⟩
  intro a ha b hb hab
  obtain ⟨q, hq, rfl⟩ := List.mem_map.mp ha
  simp_all

theorem mem_applyOverrides {ps : List (String × Option Bytes)} {ovs : List (String × Bytes)}
    (hov : (ovs.map Prod.fst).Nodup) {p : String × Option Bytes} :
    p ∈ applyOverrides ps ovs ↔
      (p ∈ ps ∧ p.1 ∉ ovs.map Prod.fst) ∨ (∃ t, (p.1, t) ∈ ovs ∧ p.2 = some t) := by
  induction ovs generalizing ps with
  | nil => simp [applyOverrides]
  | cons kv r ih =>
    obtain ⟨k, t⟩ := kv
    obtain ⟨pk, pv⟩ := p
    have hn : k ∉ r.map Prod.fst ∧ (r.map Prod.fst).Nodup := List.nodup_cons.mp hov
    have hk : ∀ t', (k, t') ∉ r := fun t' h => hn.1 (List.mem_map_of_mem (f := Prod.fst) h)
    rw [applyOverrides, ih hn.2, mem_setParam]
    -- the entry named `k` is the override just written, every other entry is as before
    by_cases e : pk = k
    · subst e; simp [hn.1, hk, eq_comm]
    · simp [e]

theorem applyOverrides_keys_nodup {ps : List (String × Option Bytes)} (ovs : List (String × Bytes))
    (h : (ps.map Prod.fst).Nodup) : ((applyOverrides ps ovs).map Prod.fst).Nodup := by
  induction ovs generalizing ps with
  | nil => exact h
  | cons kv r ih => exact ih (setParam_keys_nodup kv.1 kv.2 h)

section
variable {DT : Type} (C : DTCodec DT)

/-- `convert_options` on the arguments of a URL whose query reads as the parameter list `S`: every
parameter is parsed into the field of its own row, every other field keeps its default -/
theorem media_parse_of_params (tbl : List OptionRow) (ht : TableOk tbl) (dflt : Nat → Val DT) (url : Bytes)
    (S : List (String × Option Bytes))
    (hurl : parseQsl (queryOf url) = S.map fun p => (ascii p.1, cgiText p.2)) (hnd : (S.map Prod.fst).Nodup)
    (hS : ∀ p ∈ S, ∃ i : Nat, ∃ r : OptionRow, ∃ v, tbl[i]? = some r ∧ r.cgi = p.1 ∧
      fromString C r.kind (cgiText p.2) = .ok v) :
    ∃ res, mediaOptions C tbl dflt url = .ok res ∧
      (∀ i : Nat, ∀ r : OptionRow, tbl[i]? = some r → (∀ t, (r.cgi, t) ∉ S) → res i = dflt i) ∧
      (∀ i : Nat, ∀ r : OptionRow, ∀ t, tbl[i]? = some r → (r.cgi, t) ∈ S →
        fromString C r.kind (cgiText t) = .ok (res i)) := by
  -- names stay distinct as bytes
  have hAnd : ((S.map (fun p => (ascii p.1, cgiText p.2))).map Prod.fst).Nodup := by
    rw [List.map_map]
    refine List.Pairwise.map _ (fun _ _ h => h) (List.Pairwise.imp_of_mem ?_ (List.Pairwise.of_map Prod.fst (fun _ _ h => h) hnd))
    intro a b ha hb hab e
    obtain ⟨_, ra, _, hra, hca, _⟩ := hS a ha
    obtain ⟨_, rb, _, hrb, hcb, _⟩ := hS b hb
    exact hab (by rw [← hca, ← hcb, (row_unique ht hra hrb (by rw [hca, hcb]; exact e)).2])
  have hok : ∀ kv ∈ S.map (fun p => (ascii p.1, cgiText p.2)), ∃ i r v,
      findRow tbl kv.1 = some i ∧ tbl[i]? = some r ∧ fromString C r.kind kv.2 = .ok v := by
    intro kv hkv
    obtain ⟨p, hp, rfl⟩ := List.mem_map.mp hkv
    obtain ⟨i, r, v, hr, hc, hv⟩ := hS p hp
    exact ⟨i, r, v, hc ▸ findRow_of_get ht hr, hr, hv⟩
  obtain ⟨res, hres, hdef, hval⟩ := convertOptions_spec C tbl _ hAnd dflt hok
  refine ⟨res, by rw [mediaOptions, hurl, firstOnly_id _ hAnd]; exact hres, ?_, ?_⟩
  · intro i r hr hno
    apply hdef i
    intro kv hkv hf
    obtain ⟨p, hp, rfl⟩ := List.mem_map.mp hkv
    obtain ⟨r', hr', he⟩ := findRow_spec hf
    obtain ⟨_, rp, _, hrp, hcp, _⟩ := hS p hp
    obtain rfl : r' = r := Option.some.inj (hr'.symm.trans hr)
    apply hno p.2
    rw [(row_unique ht hr hrp (by rw [hcp]; exact he)).2, hcp]
    exact hp
  · intro i r t hr hmem
    exact hval _ (List.mem_map.mpr ⟨(r.cgi, t), hmem, rfl⟩) i r (findRow_of_get ht hr) hr

theorem setFieldByName_cases (tbl : List OptionRow) (o : Nat → Val DT) (name : String) (v : Val DT) (i : Nat) :
    setFieldByName tbl o name v i = o i ∨
      (setFieldByName tbl o name v i = v ∧ ∃ r, tbl[i]? = some r ∧ r.fieldName = name) := by
  unfold setFieldByName
  cases h : fieldIdx tbl name with
  | none => exact Or.inl rfl
  | some j =>
    by_cases e : i = j
    · subst e; right; exact ⟨by simp [setField], fieldIdx_spec h⟩
    · left; simp [setField, e]

theorem setFieldByName_other {tbl : List OptionRow} (o : Nat → Val DT) {name : String} (v : Val DT)
    {i : Nat} {r : OptionRow} (hr : tbl[i]? = some r) (hn : r.fieldName ≠ name) :
    setFieldByName tbl o name v i = o i := by
  rcases setFieldByName_cases tbl o name v i with h | ⟨_, r', hr', hn'⟩
  · exact h
  · exact absurd (Option.some.inj (hr.symm.trans hr') ▸ hn') hn

theorem dropsOption_eq_false {K : FilterConsts} {features : List String} {r : OptionRow}
    (h : r.full ∈ features ∨ r.pfx ≠ "" ∨ r.full ∉ K.featureControlled) : dropsOption K features r = false := by
  rcases h with h | h | h <;> simp [dropsOption, h]

variable {K : FilterConsts} {tbl : List OptionRow} {features : List String}

theorem removeUnsupported_dropped (dflt o : Nat → Val DT) {i : Nat} {r : OptionRow} (hr : tbl[i]? = some r)
    (hd : dropsOption K features r = true) : removeUnsupported K tbl features dflt o i = dflt i := by
  simp [removeUnsupported, hr, hd]

theorem removeUnsupported_kept (dflt o : Nat → Val DT) {i : Nat} {r : OptionRow} (hr : tbl[i]? = some r)
    (hd : dropsOption K features r = false) : removeUnsupported K tbl features dflt o i = o i := by
  simp [removeUnsupported, hr, hd]

theorem removeUnused_cases (K : FilterConsts) (tbl : List OptionRow) (mode : Bytes) (o : Nat → Val DT) (i : Nat) :
    removeUnused K tbl mode o i = none ∨ removeUnused K tbl mode o i = some (o i) := by
  unfold removeUnused
  cases tbl[i]? with
  | none => exact Or.inr rfl
  | some r =>
    simp only
    split
    · exact Or.inl rfl
    · exact Or.inr rfl

theorem astStep_ok {o o1 : Nat → Val DT} (h : astStep C tbl o = .ok o1) (j : Nat) :
    o1 j = o j ∨ (fieldIdx tbl "availabilityStartTime" = some j ∧
      (o1 j = globalDefault C tbl j ∨ ∃ d, o1 j = .dt d)) := by
  unfold astStep at h
  split at h
  · cases h; exact Or.inl rfl
  · rename_i i hi
    have hset : ∀ v, setField o i v j = o j ∨ (i = j ∧ setField o i v j = v) := fun v => by
      by_cases e : j = i <;> simp [setField, e]
    split at h
    · cases h
      exact (hset _).imp id fun ⟨e, hv⟩ => ⟨e ▸ hi, Or.inl (e ▸ hv)⟩
    · split at h
      · cases h
        exact (hset _).imp id fun ⟨e, hv⟩ => ⟨e ▸ hi, Or.inr ⟨_, hv⟩⟩
      · cases h
    · cases h; exact Or.inl rfl

theorem checkOptionValues_ok {o o1 : Nat → Val DT} (h : checkOptionValues C K tbl o = .ok o1) :
    astStep C tbl o = .ok o1 ∧ drmNamesOk tbl o = true := by
  unfold checkOptionValues at h
  split at h
  · rename_i hguards
    split at h
    · cases h
    · rename_i o' hast
      split at h
      · cases h; exact ⟨hast, ((Bool.and_eq_true _ _).mp hguards).1⟩
      · cases h
  · cases h

theorem drmNamesOk_spec {o : Nat → Val DT} (h : drmNamesOk tbl o = true)
    {l : List (Bytes × LocSet)} (hl : getField tbl o "drmSelection" = .drm l) : ∀ e ∈ l, e.1 ∈ drmNames := by
  unfold drmNamesOk at h
  rw [hl] at h
  simpa using h

/-- names of the fields `ServeManifest.get` / `calculate_options` assign after parsing -/
def handlerFields : List String := ["mode", "patch", "segmentTimeline"]

/-- the names `calculate_cgi_parameters` excludes for every media type -/
def mediaExclude : List String := ["encrypted", "mode"]

theorem forcePatch_other {tbl : List OptionRow} {mode : Bytes} (o : Nat → Val DT) {i : Nat} {r : OptionRow}
    (hr : tbl[i]? = some r) (hn : r.fieldName ≠ "patch") : forcePatch tbl mode o i = o i := by
  unfold forcePatch
  split
  · exact setFieldByName_other _ _ hr hn
  · rfl

theorem forceTimeline_other {tbl : List OptionRow} {m : ManifestRow} (o : Nat → Val DT) {i : Nat}
    {r : OptionRow} (hr : tbl[i]? = some r) (hn : r.fieldName ≠ "segmentTimeline") :
    forceTimeline tbl m o i = o i := by
  unfold forceTimeline
  split
  · exact setFieldByName_other _ _ hr hn
  · split
    · exact setFieldByName_other _ _ hr hn
    · rfl

/-- the stages are named after `ServeManifest.get`: arguments `parsed`, options `checked` by
`check_option_values`; a field the handler does not assign afterwards is then what was checked, unless
`remove_unused_parameters` takes it out -/
theorem serve_stages (K : FilterConsts) (tbl : List OptionRow) (m : ManifestRow) (mode : Bytes)
    (args : List (Bytes × Bytes)) (dflt : Nat → Val DT) (of : Opts DT)
    (hs : serveManifestOptions C K tbl m mode args dflt = .ok of) :
    ∃ parsed checked : Nat → Val DT,
      convertOptions C tbl dflt (applyRestrictions m.restrictions args) = .ok parsed ∧
      checkOptionValues C K tbl (removeUnsupported K tbl m.features dflt parsed) = .ok checked ∧
      ∀ i r, tbl[i]? = some r → r.fieldName ∉ handlerFields → of i = none ∨ of i = some (checked i) := by
  unfold serveManifestOptions at hs
  split at hs
  · cases hs
  rename_i calculated hcalc
  unfold calculateOptions at hcalc
  simp only at hcalc
  split at hcalc
  · cases hcalc
  rename_i parsed hparsed
  split at hcalc
  · cases hcalc
  rename_i checked hchecked
  cases hcalc
  split at hs
  · cases hs
  cases hs
  refine ⟨parsed, checked, hparsed, hchecked, fun i r hr hn => ?_⟩
  simp only [handlerFields, List.mem_cons, List.not_mem_nil, or_false, not_or] at hn
  refine (removeUnused_cases K tbl mode _ i).imp id fun h => ?_
  rw [h, forceTimeline_other _ hr hn.2.2, forcePatch_other _ hr hn.2.1, setFieldByName_other _ _ hr hn.1]

end

end DashLive.Options

#print axioms DashLive.Options.pyDigitsAux_run
