import DashLive.Props.C19
import DashLive.Props.GenTie
#print axioms DashLive.IsoText.duration_parse_render
#print axioms DashLive.IsoText.duration_roundtrip
#print axioms DashLive.IsoText.duration_roundtrip_exact
#print axioms DashLive.IsoText.duration_lexical
#print axioms DashLive.IsoText.datetime_roundtrip
#print axioms DashLive.IsoText.datetime_roundtrip_instant
#print axioms DashLive.IsoText.timecode_is_floor
#print axioms DashLive.IsoText.tc_mono
#print axioms DashLive.IsoText.tc_roundtrip_general
#print axioms DashLive.IsoText.tc_roundtrip_partial
#print axioms DashLive.IsoText.td_roundtrip
#print axioms DashLive.IsoText.td_roundtrip_ticks
#print axioms DashLive.GenTie.fdiv_cast
#print axioms DashLive.GenTie.fdiv_ofNat
#print axioms DashLive.GenTie.tie_refDuration
#print axioms DashLive.GenTie.tie_timecodeToTimedelta
#print axioms DashLive.GenTie.tie_timedeltaToTimecode
#print axioms DashLive.GenTie.tie_multiplyTimedelta
#print axioms DashLive.GenTie.tie_tdToTc
#print axioms DashLive.GenTie.tie_vodFirstLast
#print axioms DashLive.GenTie.tie_vodTimeToSegment
#print axioms DashLive.GenTie.vodIndex_uses_tie
#print axioms DashLive.GenTie.segDurOf_succ
#print axioms DashLive.GenTie.tie_gsiLoop
#print axioms DashLive.GenTie.tie_getSegmentIndex
