import DashLive.Props.C15
#print axioms DashLive.Auth.guard_chain_sound
#print axioms DashLive.Auth.view_of_not_pass
#print axioms DashLive.Auth.guard_denies_body_not_run
#print axioms DashLive.Auth.guards_pass_body_runs
#print axioms DashLive.Auth.translator_followed_everything
#print axioms DashLive.Auth.table_guarded
#print axioms DashLive.Auth.mutating_routes_guarded
#print axioms DashLive.Auth.lesser_role_never_mutates
#print axioms DashLive.Auth.admin_admitted
#print axioms DashLive.Auth.mutating_routes_admit_documented_role
#print axioms DashLive.Auth.token_guards_ignore_session
#print axioms DashLive.Auth.session_guards_ignore_token
#print axioms DashLive.Auth.jwt_routes_ignore_session
#print axioms DashLive.Auth.table_has_jwt_protected_rows
#print axioms DashLive.Auth.mutating_routes_csrf_first
#print axioms DashLive.Auth.table_has_mutating_rows_of_every_kind
#print axioms DashLive.Auth.lookup_ignores_other_accounts
#print axioms DashLive.Auth.lookup_exact
#print axioms DashLive.Auth.prune_only_at_server_start
#print axioms DashLive.Auth.no_handler_prunes
#print axioms DashLive.Auth.services_suffix_free
#print axioms DashLive.Csrf.csrf_at_most_once
#print axioms DashLive.Csrf.records_survive_run
#print axioms DashLive.Csrf.pruneExpired_keeps_live
#print axioms DashLive.Csrf.csrf_reuse_after_expiry_prune
#print axioms DashLive.Csrf.csrf_at_most_once_wire
#print axioms DashLive.Csrf.csrf_spellings_share_one_record
#print axioms DashLive.Csrf.csrf_failed_check_consumes
#print axioms DashLive.Csrf.csrf_accept_only_issued
#print axioms DashLive.Csrf.csrf_tamper
#print axioms DashLive.Csrf.Issued.token_take
#print axioms DashLive.Csrf.Issued.token_drop
#print axioms DashLive.Csrf.csrf_bound_partial
#print axioms DashLive.Csrf.csrf_bound_services
#print axioms DashLive.Csrf.csrf_service_bound
#print axioms DashLive.Csrf.csrf_cookie_bound
#print axioms DashLive.Csrf.csrf_needs_cookie
#print axioms DashLive.Csrf.csrf_fresh_accepted
#print axioms DashLive.Csrf.csrf_reuse_after_prune
#print axioms DashLive.Csrf.csrf_at_most_once_fails_with_prune
#print axioms DashLive.Life.api_logout_voids_refresh
#print axioms DashLive.Life.html_logout_voids_refresh
#print axioms DashLive.Life.deleted_user_voids_everything
#print axioms DashLive.Life.api_logout_voids_presented_access
#print axioms DashLive.Life.other_access_survives_api_logout
#print axioms DashLive.Life.cookie_copy_survives_logout
