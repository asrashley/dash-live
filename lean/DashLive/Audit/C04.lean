import DashLive.Props.C04
#print axioms DashLive.C04.be_decode_encode
#print axioms DashLive.C04.be_encode_decode
#print axioms DashLive.C04.i32_decode_encode
#print axioms DashLive.C04.i32_encode_decode
#print axioms DashLive.C04.cstr_decode_encode
#print axioms DashLive.C04.cstr_encode_decode
#print axioms DashLive.C04.header_decode_encode
#print axioms DashLive.C04.header_encode_decode_partial
#print axioms DashLive.C04.decode_encode_ftyp
#print axioms DashLive.C04.encode_decode_ftyp
#print axioms DashLive.C04.decode_encode_mfhd
#print axioms DashLive.C04.encode_decode_mfhd
#print axioms DashLive.C04.decode_encode_tfhd
#print axioms DashLive.C04.encode_decode_tfhd
#print axioms DashLive.C04.decode_encode_tfdt
#print axioms DashLive.C04.encode_decode_tfdt
#print axioms DashLive.C04.decode_encode_trun
#print axioms DashLive.C04.encode_decode_trun
#print axioms DashLive.C04.decode_encode_saiz
#print axioms DashLive.C04.encode_decode_saiz
#print axioms DashLive.C04.decode_encode_saio
#print axioms DashLive.C04.encode_decode_saio
#print axioms DashLive.C04.decode_encode_senc
#print axioms DashLive.C04.decode_encode_tenc
#print axioms DashLive.C04.encode_decode_tenc
#print axioms DashLive.C04.decode_encode_pssh
#print axioms DashLive.C04.encode_decode_pssh
#print axioms DashLive.C04.decode_encode_mehd
#print axioms DashLive.C04.encode_decode_mehd
#print axioms DashLive.C04.decode_encode_trex
#print axioms DashLive.C04.encode_decode_trex
#print axioms DashLive.C04.decode_encode_sidx
#print axioms DashLive.C04.encode_decode_sidx_partial
#print axioms DashLive.C04.decode_encode_emsg
#print axioms DashLive.C04.encode_decode_emsg
#print axioms DashLive.C04.decode_encode_dec3
#print axioms DashLive.C04.tfdt_version_switch
#print axioms DashLive.C04.tree_roundtrip
#print axioms DashLive.C04.encode_size
#print axioms DashLive.C04.encode_children_fill
#print axioms DashLive.C04.edits_preserve_sizes
#print axioms DashLive.C04.encode_after_edits
#print axioms DashLive.C04.lazy_eq_eager
