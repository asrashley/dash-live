import DashLive.Props.C12
import DashLive.Props.GenTiePeriods
#print axioms DashLive.Periods.vod_periods_faithful
#print axioms DashLive.Periods.vod_periods_contiguous
#print axioms DashLive.Periods.vod_periods_sum
#print axioms DashLive.Periods.vod_periods_end
#print axioms DashLive.Periods.vod_periods_whole_ms
#print axioms DashLive.Periods.live_periods_terminate
#print axioms DashLive.Periods.live_periods_contiguous
#print axioms DashLive.Periods.live_periods_cover
#print axioms DashLive.Periods.live_periods_source
#print axioms DashLive.Periods.live_ids_unique
#print axioms DashLive.Periods.live_periods_whole_ms
#print axioms DashLive.Periods.live_periods_bounded
#print axioms DashLive.Periods.live_periods_exact
#print axioms DashLive.Periods.live_zero_duration
#print axioms DashLive.Periods.live_cover_needs_loop_count
#print axioms DashLive.Periods.mps_offset_floor
#print axioms DashLive.Periods.mps_start_nearest
#print axioms DashLive.Periods.mps_number_any
#print axioms DashLive.Periods.mps_number_maps
#print axioms DashLive.Periods.mps_number_maps_no_tfdt
#print axioms DashLive.Periods.mps_decode_zero
#print axioms DashLive.Periods.mps_decode_gapless
#print axioms DashLive.Periods.mps_beyond_end_404
#print axioms DashLive.Periods.mps_number_never_crashes
#print axioms DashLive.Periods.mps_admitted_partial
#print axioms DashLive.Periods.mps_admitted_tight
#print axioms DashLive.Periods.mps_admitted_of_fits
#print axioms DashLive.Periods.mps_time_maps
#print axioms DashLive.Periods.mps_time_at_start
#print axioms DashLive.Periods.mps_timeline_lists_admitted
#print axioms DashLive.Periods.mps_timeline_gapless
#print axioms DashLive.Periods.mps_timeline_complete
#print axioms DashLive.Periods.mps_timeline_empty_past_media
#print axioms DashLive.Periods.mps_time_equals_number
#print axioms DashLive.GenTie.tie_ptLoop
#print axioms DashLive.GenTie.tie_periodTimeline
