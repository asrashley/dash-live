import DashLive.Props.C20
import DashLive.Props.GenTieBufReader
#print axioms DashLive.BufReader.window_drop_take
#print axioms DashLive.BufReader.window_length
#print axioms DashLive.BufReader.init_inv
#print axioms DashLive.BufReader.peek_spec
#print axioms DashLive.BufReader.readN_spec
#print axioms DashLive.BufReader.step_refines
#print axioms DashLive.BufReader.refines_slice
#print axioms DashLive.BufReader.refines_slice_init
#print axioms DashLive.BufReader.exec_induction
#print axioms DashLive.BufReader.inv_reachable
#print axioms DashLive.BufReader.pos_clamped
#print axioms DashLive.BufReader.never_outside_window
#print axioms DashLive.BufReader.specRun_congr
#print axioms DashLive.BufReader.eviction_invisible
#print axioms DashLive.BufReader.cache_bounded
#print axioms DashLive.GenTie.tie_seek
#print axioms DashLive.GenTie.tie_seek_other
