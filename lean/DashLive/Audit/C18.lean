import DashLive.Props.C18
#print axioms DashLive.Validator.timing_errors_iff
#print axioms DashLive.Validator.validator_detects_decode_time
#print axioms DashLive.Validator.validator_detects_sequence_number
#print axioms DashLive.Validator.validator_detects_at_zero_expectation
#print axioms DashLive.Validator.parseReaches_reaches
#print axioms DashLive.Validator.trun_errors_iff
#print axioms DashLive.Validator.validator_detects_trun_offset
#print axioms DashLive.Validator.validator_detects_trun_beyond_mdat
#print axioms DashLive.Validator.saioOffset_mem_checkSaio_iff
#print axioms DashLive.Validator.saio_offset_iff
#print axioms DashLive.Validator.validator_detects_saio_offset
#print axioms DashLive.Validator.genTimeline_live_time
#print axioms DashLive.Validator.validator_accepts_time_addressing_partial
#print axioms DashLive.Validator.uniform_consecutive
#print axioms DashLive.Validator.genTemplate_eq
#print axioms DashLive.Validator.validator_accepts_number_addressing_partial
#print axioms DashLive.Validator.continuity_within_loop
#print axioms DashLive.Validator.continuity_at_boundary
#print axioms DashLive.Validator.half_segment_of_C02
#print axioms DashLive.Validator.validator_detects_timeline_gap
#print axioms DashLive.Validator.gap_breaks_numbering
#print axioms DashLive.Validator.validator_detects_decode_time_at_successor
#print axioms DashLive.Validator.repLoop_of_step
#print axioms DashLive.Validator.initErrors_of_loaded
#print axioms DashLive.Validator.validator_detects_init_box
#print axioms DashLive.Validator.validator_detects_init_structure
#print axioms DashLive.Validator.validator_accepts_init
#print axioms DashLive.Validator.validator_accepts_manifest
#print axioms DashLive.Validator.mem_append_flatMap_zipIdx
#print axioms DashLive.Validator.docErrors_of_mpd
#print axioms DashLive.Validator.validator_detects_mpd_attribute
#print axioms DashLive.Validator.validator_detects_period_id
#print axioms DashLive.Validator.validator_detects_adaptation_set_mime_type
#print axioms DashLive.Validator.docErrors_of_rep
#print axioms DashLive.Validator.validator_detects_representation_attribute
#print axioms DashLive.Validator.validator_detects_missing_s_duration
#print axioms DashLive.Validator.validator_detects_time_shift_buffer_depth
#print axioms DashLive.Validator.validator_detects_initialization
#print axioms DashLive.Validator.mandatory_table_detected
#print axioms DashLive.Validator.mandatory_table_complete
#print axioms DashLive.Validator.validator_timeline_is_slice
#print axioms DashLive.Validator.validator_accepts_timeline_depth
#print axioms DashLive.Validator.validator_detects_short_timeline
#print axioms DashLive.Validator.refreshErrors_independent
#print axioms DashLive.Validator.refreshErrors_eq_nil_iff
#print axioms DashLive.Validator.validator_detects_ast_change
#print axioms DashLive.Validator.validator_detects_ast_change_without_update_period
#print axioms DashLive.Validator.validator_detects_mpd_id_change
#print axioms DashLive.Validator.validator_accepts_refresh_without_update_period
#print axioms DashLive.Validator.validator_accepts_refresh_partial
#print axioms DashLive.Validator.mem_final_apply
#print axioms DashLive.Validator.mem_final_foldl
#print axioms DashLive.Validator.final_report_contains_every_pass
#print axioms DashLive.Validator.final_report_only_findings
#print axioms DashLive.Validator.availDecision_fetch_iff
#print axioms DashLive.Validator.listed_segment_examined
#print axioms DashLive.Validator.listed_segment_examined_inside
#print axioms DashLive.Validator.segmentAvailability_stop
#print axioms DashLive.Validator.availDecision_expired_iff
