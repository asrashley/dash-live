import DashLive.Props.C03
#print axioms DashLive.SegmentRewrite.rewrite_wellformed
#print axioms DashLive.SegmentRewrite.rewrite_mdat_identical
#print axioms DashLive.SegmentRewrite.rewrite_trun_points
#print axioms DashLive.SegmentRewrite.rewrite_sizes_sum
#print axioms DashLive.SegmentRewrite.sencEntryPos_rewrite
#print axioms DashLive.SegmentRewrite.rewrite_saio_points
#print axioms DashLive.SegmentRewrite.rewrite_senc_trun_counts
#print axioms DashLive.SegmentRewrite.rewrite_saio_stale_only_with_bug
#print axioms DashLive.SegmentRewrite.rewrite_bug_changes_only_saio
#print axioms DashLive.SegmentRewrite.rewrite_patches_in_place
