import DashLive.Props.C11
import DashLive.Props.C11WrmHeader
#print axioms DashLive.C11.leGuidBytes_eq_bytesLe
#print axioms DashLive.C11.bytesLeIdx_lt
#print axioms DashLive.C11.leGuid_is_bytes_le
#print axioms DashLive.C11.leGuid_involutive
#print axioms DashLive.C11.leGuid_rejects
#print axioms DashLive.C11.contentKey_eq
#print axioms DashLive.C11.contentKey_spec
#print axioms DashLive.C11.keySeedSpec_pointwise
#print axioms DashLive.C11.contentKey_rejects
#print axioms DashLive.C11.contentKey_seed_truncated
#print axioms DashLive.C11.checksum_spec
#print axioms DashLive.C11.pro_roundtrip
#print axioms DashLive.C11.pro_too_long
#print axioms DashLive.C11.wrm_utf16le_no_bom
#print axioms DashLive.C11.playreadyPssh_carries_pro
#print axioms DashLive.C11.b64url_roundtrip
#print axioms DashLive.C11.b64url_kid_length
#print axioms DashLive.C11.decodeAll_ok
#print axioms DashLive.C11.licence_of_decoded
#print axioms DashLive.C11.clearkey_exact
#print axioms DashLive.C11.clearkey_exact_encoded
#print axioms DashLive.C11.clearkey_unknown_nothing
#print axioms DashLive.C11.clearkey_malformed_no_keys
#print axioms DashLive.C11.decodeAll_other
#print axioms DashLive.C11.fl_aesctr
#print axioms DashLive.C11.tmpl40_shape
#print axioms DashLive.C11.e40_check
#print axioms DashLive.C11.raw40
#print axioms DashLive.C11.tmpl41_shape
#print axioms DashLive.C11.t41_check
#print axioms DashLive.C11.f41_check
#print axioms DashLive.C11.raw41
#print axioms DashLive.C11.tmpl42_shape
#print axioms DashLive.C11.t42_check
#print axioms DashLive.C11.f42_check
#print axioms DashLive.C11.raw42
#print axioms DashLive.C11.tmpl43_shape
#print axioms DashLive.C11.t43_check
#print axioms DashLive.C11.f43_check
#print axioms DashLive.C11.raw43
#print axioms DashLive.C11.template_cases
#print axioms DashLive.C11.parse_wrmText
#print axioms DashLive.C11.wrmheader_roundtrip
#print axioms DashLive.C11.pro_wrmheader_roundtrip
#print axioms DashLive.C11.buildCtx_names_keys
#print axioms DashLive.C11.headerVersion_decision
#print axioms DashLive.C11.headerVersion_explicit
#print axioms DashLive.C11.headerVersion_capacity
#print axioms DashLive.C11.headerVersion_app
#print axioms DashLive.C11.exCtx_ok
#print axioms DashLive.C11.parse_exCtx
