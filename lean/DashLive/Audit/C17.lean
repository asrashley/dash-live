import DashLive.Props.C17
#print axioms DashLive.Store.inv_init
#print axioms DashLive.Store.inv_step
#print axioms DashLive.Store.inv_reachable
#print axioms DashLive.Store.inv_reachable_init
#print axioms DashLive.Store.reachable_consistent
#print axioms DashLive.Store.blob_files_step
#print axioms DashLive.Store.blob_files_reachable
#print axioms DashLive.Store.delete_owns_exactly_stream
#print axioms DashLive.Store.delete_owns_exactly_media
#print axioms DashLive.Store.delete_owns_exactly_key
#print axioms DashLive.Store.delete_owns_exactly_mps
#print axioms DashLive.Store.delete_leaves_no_dangling
#print axioms DashLive.Store.non_ok_changes_no_table
#print axioms DashLive.Store.not_found_changes_nothing
