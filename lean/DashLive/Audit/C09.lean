import DashLive.Props.C09
import DashLive.Props.GenTie
import DashLive.Props.GenTieTimeline
import DashLive.Props.Generated
import DashLive.Props.GenTieLiveTiming
#print axioms DashLive.Segments.C09_shared_entries_equal
#print axioms DashLive.Segments.C09_overlapping_entries_equal
#print axioms DashLive.Segments.C09_window_start_forward
#print axioms DashLive.Segments.fat_mono_const_depth
#print axioms DashLive.Segments.windowEnd_spec
#print axioms DashLive.Segments.C09_window_end_forward
#print axioms DashLive.Segments.window_from_timing
#print axioms DashLive.Segments.C09_publish_ast_mono
#print axioms DashLive.Segments.C01_time_from_clock
#print axioms DashLive.Segments.Roundtrip.url_roundtrip_timing
#print axioms DashLive.Segments.lookup_of_mem
#print axioms DashLive.Segments.C09_patch_equiv
#print axioms DashLive.GenTie.fdiv_cast
#print axioms DashLive.GenTie.fdiv_ofNat
#print axioms DashLive.GenTie.tie_refDuration
#print axioms DashLive.GenTie.tie_timecodeToTimedelta
#print axioms DashLive.GenTie.tie_timedeltaToTimecode
#print axioms DashLive.GenTie.tie_multiplyTimedelta
#print axioms DashLive.GenTie.tie_tdToTc
#print axioms DashLive.GenTie.tie_vodFirstLast
#print axioms DashLive.GenTie.tie_vodTimeToSegment
#print axioms DashLive.GenTie.vodIndex_uses_tie
#print axioms DashLive.GenTie.segDurOf_succ
#print axioms DashLive.GenTie.tie_gsiLoop
#print axioms DashLive.GenTie.tie_getSegmentIndex
#print axioms DashLive.GenTie.finishG_eq
#print axioms DashLive.GenTie.tie_tlLoop
#print axioms DashLive.GenTie.tie_timelineTail
#print axioms DashLive.GenTie.tie_timelineVod
#print axioms DashLive.GenTie.tie_timelineLive
#print axioms DashLive.Generated.liveTimelineG_eq
#print axioms DashLive.Generated.C01_time_generated
#print axioms DashLive.Generated.C01_number_generated
#print axioms DashLive.Generated.C09_shared_entries_generated
#print axioms DashLive.Generated.C09_window_start_generated
#print axioms DashLive.Generated.C02_time_resolves_generated
#print axioms DashLive.Generated.C06_timeline_generated
#print axioms DashLive.Generated.C06_numbers_generated
#print axioms DashLive.Generated.C06_time_generated
#print axioms DashLive.GenTie.LiveTiming.defaultMup_eq
#print axioms DashLive.GenTie.LiveTiming.tie_tail
#print axioms DashLive.GenTie.LiveTiming.tie_init_publishTime
#print axioms DashLive.GenTie.LiveTiming.tie_init_leeway
#print axioms DashLive.GenTie.LiveTiming.tie_init_one_day
#print axioms DashLive.GenTie.LiveTiming.tie_init_depth
#print axioms DashLive.GenTie.LiveTiming.tie_resolve_epoch
#print axioms DashLive.GenTie.LiveTiming.tie_resolve_now
#print axioms DashLive.GenTie.LiveTiming.tie_resolve_explicit
#print axioms DashLive.GenTie.LiveTiming.tie_resolve_month
#print axioms DashLive.GenTie.LiveTiming.tie_resolve_year
#print axioms DashLive.GenTie.LiveTiming.tie_resolve_today
#print axioms DashLive.GenTie.LiveTiming.tie_liveTiming
#print axioms DashLive.GenTie.LiveTiming.tie_liveTiming_fields
