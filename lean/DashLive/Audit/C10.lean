import DashLive.Props.C10
#print axioms DashLive.C10.initPsshs_eq_filterMap
#print axioms DashLive.C10.initPsshs_spec
#print axioms DashLive.C10.initPsshs_clear
#print axioms DashLive.C10.lookupLast_mem
#print axioms DashLive.C10.initPsshs_no_moov
#print axioms DashLive.C10.initPsshs_marlin_only
#print axioms DashLive.C10.pssh_framing
#print axioms DashLive.C10.pssh_box_bytes
#print axioms DashLive.C10.encodeList_map_box
#print axioms DashLive.C10.wfList_map_box
#print axioms DashLive.C10.generateInit_split
#print axioms DashLive.C10.init_diff_exact
#print axioms DashLive.C10.mvex_diff
#print axioms DashLive.C10.mvex_no_mehd
#print axioms DashLive.C10.moovChildren_vod
#print axioms DashLive.C10.init_clear_identity
#print axioms DashLive.C10.init_wellformed
#print axioms DashLive.C10.mem_normLocs
#print axioms DashLive.C10.normLocs_full
#print axioms DashLive.C10.lookupLast_map
#print axioms DashLive.C10.lookupLast_eq_none
#print axioms DashLive.C10.selection_print_parse
#print axioms DashLive.C10.wantsMoov_handed_on
#print axioms DashLive.C10.init_handed_on
#print axioms DashLive.C10.init_history_independent
