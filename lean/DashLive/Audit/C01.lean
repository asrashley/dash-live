import DashLive.Props.C01
import DashLive.Props.GenTie
import DashLive.Props.GenTieTimeline
import DashLive.Props.GenTieLiveIndex
import DashLive.Props.Generated
#print axioms DashLive.Segments.advMicro_pos
#print axioms DashLive.Segments.tcFirst_eq
#print axioms DashLive.Segments.C01_time_core
#print axioms DashLive.Segments.C01_time_partial
#print axioms DashLive.Segments.C01_number_partial
#print axioms DashLive.Segments.default_leeway_is_16
#print axioms DashLive.Segments.default_leeway_suffices
#print axioms DashLive.Segments.C01_init
#print axioms DashLive.GenTie.fdiv_cast
#print axioms DashLive.GenTie.fdiv_ofNat
#print axioms DashLive.GenTie.tie_refDuration
#print axioms DashLive.GenTie.tie_timecodeToTimedelta
#print axioms DashLive.GenTie.tie_timedeltaToTimecode
#print axioms DashLive.GenTie.tie_multiplyTimedelta
#print axioms DashLive.GenTie.tie_tdToTc
#print axioms DashLive.GenTie.tie_vodFirstLast
#print axioms DashLive.GenTie.tie_vodTimeToSegment
#print axioms DashLive.GenTie.vodIndex_uses_tie
#print axioms DashLive.GenTie.segDurOf_succ
#print axioms DashLive.GenTie.tie_gsiLoop
#print axioms DashLive.GenTie.tie_getSegmentIndex
#print axioms DashLive.GenTie.finishG_eq
#print axioms DashLive.GenTie.tie_tlLoop
#print axioms DashLive.GenTie.tie_timelineTail
#print axioms DashLive.GenTie.tie_timelineVod
#print axioms DashLive.GenTie.tie_timelineLive
#print axioms DashLive.GenTie.tie_liveIndexTime
#print axioms DashLive.GenTie.tie_liveIndexNumber
#print axioms DashLive.GenTie.tie_vodIndexNumber
#print axioms DashLive.GenTie.tie_vodIndexTime
#print axioms DashLive.Generated.liveTimelineG_eq
#print axioms DashLive.Generated.C01_time_generated
#print axioms DashLive.Generated.C01_number_generated
#print axioms DashLive.Generated.C09_shared_entries_generated
#print axioms DashLive.Generated.C09_window_start_generated
#print axioms DashLive.Generated.C02_time_resolves_generated
#print axioms DashLive.Generated.C06_timeline_generated
#print axioms DashLive.Generated.C06_numbers_generated
#print axioms DashLive.Generated.C06_time_generated
