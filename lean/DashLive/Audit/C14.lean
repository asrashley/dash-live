import DashLive.Props.C14
import DashLive.Props.GenTieEmsg
#print axioms DashLive.Events.emsg_terminates
#print axioms DashLive.Events.emsg_no_assertion
#print axioms DashLive.Events.emsg_value_error_iff
#print axioms DashLive.Events.emsgLoop_diverges_interval_zero
#print axioms DashLive.Events.emsgLoop_diverges_interval_neg
#print axioms DashLive.Events.seg_ordered
#print axioms DashLive.Events.emsg_segment_exact
#print axioms DashLive.Events.emsg_ok_exact
#print axioms DashLive.Events.emsg_not_inband
#print axioms DashLive.Events.mem_scheduled
#print axioms DashLive.Events.scheduled_sorted
#print axioms DashLive.Events.emsg_mem
#print axioms DashLive.Events.emsg_in_segment
#print axioms DashLive.Events.emsg_time_resolves
#print axioms DashLive.Events.runEnd_cons
#print axioms DashLive.Events.contiguous_ordered
#print axioms DashLive.Events.run_requests_ok
#print axioms DashLive.Events.emsg_exactly_once
#print axioms DashLive.Events.emsg_delivery_count
#print axioms DashLive.Events.contiguous_of_media_run
#print axioms DashLive.Events.oobLoop_eq
#print axioms DashLive.Events.oob_list
#print axioms DashLive.Events.oob_same_schedule
#print axioms DashLive.Events.evopt_exact
#print axioms DashLive.Events.evopt_interval_exact
#print axioms DashLive.Events.evopt_default
#print axioms DashLive.Events.emsg_box_roundtrip
#print axioms DashLive.Crc32.crc_residue
#print axioms DashLive.Crc32.crc_width
#print axioms DashLive.Crc32.crcBits_spine
#print axioms DashLive.Scte35.scte35_roundtrip
#print axioms DashLive.Scte35.scte35_lengths
#print axioms DashLive.Scte35.scte35_matches_schedule
#print axioms DashLive.Scte35.schedPts_eq
#print axioms DashLive.Scte35.scte35_payload_exists
#print axioms DashLive.GenTie.toEmsg_boxOf
#print axioms DashLive.GenTie.fdiv_segStart
#print axioms DashLive.GenTie.fdiv_segEnd
#print axioms DashLive.GenTie.loop_brk
#print axioms DashLive.GenTie.tie_loop
#print axioms DashLive.GenTie.gen_segment_exact
#print axioms DashLive.GenTie.tie_createEmsg
#print axioms DashLive.GenTie.tie_createEmsg_oob
#print axioms DashLive.GenTie.gen_exactly_once
