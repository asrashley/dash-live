import DashLive.Props.C08
import DashLive.Props.GenTieLiveTiming
#print axioms DashLive.LiveTiming.accepted_of_le
#print axioms DashLive.LiveTiming.Accepted.core
#print axioms DashLive.LiveTiming.ast_le_now
#print axioms DashLive.LiveTiming.elapsed_eq
#print axioms DashLive.LiveTiming.publish_in_range
#print axioms DashLive.LiveTiming.tsbd_bounds
#print axioms DashLive.LiveTiming.tsbd_le_requested
#print axioms DashLive.LiveTiming.fat_eq
#print axioms DashLive.LiveTiming.mup_positive
#print axioms DashLive.LiveTiming.default_mup_positive
#print axioms DashLive.LiveTiming.default_mup_unrepaired
#print axioms DashLive.LiveTiming.publish_quantised
#print axioms DashLive.LiveTiming.publish_lag
#print axioms DashLive.LiveTiming.publish_mono
#print axioms DashLive.LiveTiming.publish_mono_across_restart
#print axioms DashLive.LiveTiming.symbolic_age
#print axioms DashLive.LiveTiming.symbolic_age_epoch_partial
#print axioms DashLive.LiveTiming.symbolic_stable
#print axioms DashLive.LiveTiming.month_year_stable_all_day
#print axioms DashLive.LiveTiming.symbolic_midnight
#print axioms DashLive.LiveTiming.now_follows_clock
#print axioms DashLive.LiveTiming.served_iff_accepted
#print axioms DashLive.LiveTiming.refused_iff_not_accepted
#print axioms DashLive.LiveTiming.handon_accepted
#print axioms DashLive.LiveTiming.handon_coherent
#print axioms DashLive.GenTie.LiveTiming.defaultMup_eq
#print axioms DashLive.GenTie.LiveTiming.tie_tail
#print axioms DashLive.GenTie.LiveTiming.tie_init_publishTime
#print axioms DashLive.GenTie.LiveTiming.tie_init_leeway
#print axioms DashLive.GenTie.LiveTiming.tie_init_one_day
#print axioms DashLive.GenTie.LiveTiming.tie_init_depth
#print axioms DashLive.GenTie.LiveTiming.tie_resolve_epoch
#print axioms DashLive.GenTie.LiveTiming.tie_resolve_now
#print axioms DashLive.GenTie.LiveTiming.tie_resolve_explicit
#print axioms DashLive.GenTie.LiveTiming.tie_resolve_month
#print axioms DashLive.GenTie.LiveTiming.tie_resolve_year
#print axioms DashLive.GenTie.LiveTiming.tie_resolve_today
#print axioms DashLive.GenTie.LiveTiming.tie_liveTiming
#print axioms DashLive.GenTie.LiveTiming.tie_liveTiming_fields
