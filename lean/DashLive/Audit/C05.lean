import DashLive.Props.C05
#print axioms DashLive.Xml.escape_text_inert
#print axioms DashLive.Xml.escape_attr_inert
#print axioms DashLive.Xml.autoescape_text_inert
#print axioms DashLive.Xml.autoescape_attr_inert
#print axioms DashLive.Xml.escape_keeps_nesting
#print axioms DashLive.Xml.escape_no_delimiter
#print axioms DashLive.Xml.sites_escaped
#print axioms DashLive.Xml.sites_nontrivial
#print axioms DashLive.Xml.site_escape_inert
#print axioms DashLive.Xml.site_inert
#print axioms DashLive.Xml.uint_lexical
#print axioms DashLive.Xml.duration_lexical
#print axioms DashLive.Xml.duration_lexical_exact
#print axioms DashLive.Xml.datetime_lexical_partial
#print axioms DashLive.Xml.lexical_nonneg
#print axioms DashLive.Xml.typed_values_inert
#print axioms DashLive.Xml.uint_plain
