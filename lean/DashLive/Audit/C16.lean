import DashLive.Props.C16
import DashLive.Props.GenTie
#print axioms DashLive.C16.table_key_error_rows
#print axioms DashLive.C16.option_parse_kinds
#print axioms DashLive.C16.convert_kinds
#print axioms DashLive.C16.calc_options_kinds
#print axioms DashLive.C16.guarded_calc_no_500
#print axioms DashLive.C16.guarded_calc_error
#print axioms DashLive.C16.table_names_nodup
#print axioms DashLive.C16.table_fields_resolve
#print axioms DashLive.C16.table_event_fields_resolve
#print axioms DashLive.C16.table_defaults_parse
#print axioms DashLive.C16.validated_drm_no_assert
#print axioms DashLive.C16.validated_time_source
#print axioms DashLive.C16.confused_escapes
#print axioms DashLive.C16.handler_status_no_5xx_partial
#print axioms DashLive.C16.media_status_no_5xx_partial
#print axioms DashLive.C16.vod_outside_range_404
#print axioms DashLive.C16.vod_in_range_index
#print axioms DashLive.C16.time_status
#print axioms DashLive.C16.ntp_fields_fit_partial
#print axioms DashLive.C16.ntp_clock_not_before_1900
#print axioms DashLive.C16.inject_only_addressed
#print axioms DashLive.C16.inject_isolated_position
#print axioms DashLive.C16.inject_isolated_usage
#print axioms DashLive.C16.inject_isolated_code
#print axioms DashLive.C16.foreign_other_usage
#print axioms DashLive.C16.foreign_not_hit
#print axioms DashLive.C16.inject_time_addressed_never
#print axioms DashLive.C16.inject_always
#print axioms DashLive.C16.inject_exact
#print axioms DashLive.C16.inject_negative_failures
#print axioms DashLive.C16.inject_time_segment
#print axioms DashLive.C16.loops_terminate_segment_index
#print axioms DashLive.C16.gsi_zero_never_terminates
#print axioms DashLive.C16.loops_terminate_events
#print axioms DashLive.C16.loops_terminate_periods
#print axioms DashLive.C16.countLoop_le
#print axioms DashLive.C16.parser_loop_iterations
#print axioms DashLive.C16.parser_loops_bounded
#print axioms DashLive.C16.parser_zero_size_loops_capped
#print axioms DashLive.C16.parser_short_read_raises
#print axioms DashLive.GenTie.fdiv_cast
#print axioms DashLive.GenTie.fdiv_ofNat
#print axioms DashLive.GenTie.tie_refDuration
#print axioms DashLive.GenTie.tie_timecodeToTimedelta
#print axioms DashLive.GenTie.tie_timedeltaToTimecode
#print axioms DashLive.GenTie.tie_multiplyTimedelta
#print axioms DashLive.GenTie.tie_tdToTc
#print axioms DashLive.GenTie.tie_vodFirstLast
#print axioms DashLive.GenTie.tie_vodTimeToSegment
#print axioms DashLive.GenTie.vodIndex_uses_tie
#print axioms DashLive.GenTie.segDurOf_succ
#print axioms DashLive.GenTie.tie_gsiLoop
#print axioms DashLive.GenTie.tie_getSegmentIndex
