import DashLive.Props.C13
#print axioms DashLive.Range.specResponse_outcome
#print axioms DashLive.Range.range_any_header
#print axioms DashLive.Range.range_absent
#print axioms DashLive.Range.onDemand_outcome
#print axioms DashLive.Range.segment_outcome
#print axioms DashLive.Range.okResp_exact
#print axioms DashLive.Range.Outcome.status
#print axioms DashLive.Range.Outcome.exact206
#print axioms DashLive.Range.Outcome.unsat
#print axioms DashLive.Range.range_total
#print axioms DashLive.Range.range_206_exact
#print axioms DashLive.Range.range_416_exact
#print axioms DashLive.Range.range_200_iff_absent
#print axioms DashLive.Range.natRepr_eq_toString
#print axioms DashLive.Range.range_rfc7233_partial
#print axioms DashLive.Range.range_satisfiable_iff_partial
#print axioms DashLive.Range.range_suffix_whole_partial
#print axioms DashLive.Range.range_inverted_partial
#print axioms DashLive.Range.range_overlong
#print axioms DashLive.Range.contentRange_unambiguous
#print axioms DashLive.Range.contentRange_unsat_distinct
#print axioms DashLive.Range.Exact206.reads_back
#print axioms DashLive.Range.range_206_reads_back
#print axioms DashLive.Range.range_416_not_a_slice
