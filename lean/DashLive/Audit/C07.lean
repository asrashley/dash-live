import DashLive.Props.C07
import DashLive.Props.C07Dt
#print axioms DashLive.Options.codec_roundtrip_bool
#print axioms DashLive.Options.codec_roundtrip_intOrNone
#print axioms DashLive.Options.codec_roundtrip_floatOrNone
#print axioms DashLive.Options.codec_roundtrip_strOrNone
#print axioms DashLive.Options.codec_roundtrip_strRaw
#print axioms DashLive.Options.codec_roundtrip_listJoin
#print axioms DashLive.Options.codec_roundtrip_drmSelection
#print axioms DashLive.Options.codec_roundtrip_quotedUrl
#print axioms DashLive.Options.codec_roundtrip_astDateTime
#print axioms DashLive.Options.codec_roundtrip_dtOrNone
#print axioms DashLive.Options.codec_roundtrip_errorList
#print axioms DashLive.Options.codec_roundtrip_intOrDefault
#print axioms DashLive.Options.codec_roundtrip_posIntOrDefault
#print axioms DashLive.Options.codec_roundtrip
#print axioms DashLive.Options.transport_id
#print axioms DashLive.Options.transport_query
#print axioms DashLive.Options.transport_raw_loses_plus
#print axioms DashLive.Options.forwarding_complete
#print axioms DashLive.Options.forwarding_minimal
#print axioms DashLive.Options.media_side_parse
#print axioms DashLive.Options.media_side_same_value
#print axioms DashLive.Options.table_wellformed
#print axioms DashLive.Options.table_field_names_distinct
#print axioms DashLive.Options.table_defaults_parse
#print axioms DashLive.Options.table_forwards_required
#print axioms DashLive.Options.table_forwards_event_schedules
#print axioms DashLive.Options.table_injection_confined
#print axioms DashLive.Options.table_exclusions_harmless
#print axioms DashLive.Options.gen_constants_agree
#print axioms DashLive.Options.inject_roundtrip_errors
#print axioms DashLive.Options.inject_roundtrip_corrupt
#print axioms DashLive.Options.toyCodec_laws
#print axioms DashLive.Options.supported_options_survive
#print axioms DashLive.Options.unsupported_options_dropped_consistently
#print axioms DashLive.Options.request_to_media_same_value
#print axioms DashLive.Options.supported_options_survive_table
#print axioms DashLive.Options.table_dropped_media_options
#print axioms DashLive.Options.table_filter_names
#print axioms DashLive.Options.table_request_facts
#print axioms DashLive.Options.request_to_media_same_value_generated
#print axioms DashLive.Options.toNat_byteOf
#print axioms DashLive.Options.isDigit_byteOf
#print axioms DashLive.Options.okChar_ind
#print axioms DashLive.Options.okChar_noSep
#print axioms DashLive.Options.okChar_noWs
#print axioms DashLive.Options.charOf_byteOf
#print axioms DashLive.Options.allOk_nil
#print axioms DashLive.Options.allOk_append
#print axioms DashLive.Options.allOk_cons
#print axioms DashLive.Options.allOk_pad
#print axioms DashLive.Options.allOk_bodyText
#print axioms DashLive.Options.allOk_tzText
#print axioms DashLive.Options.allOk_toIsoDateTime
#print axioms DashLive.Options.map_charOf_byteOf
#print axioms DashLive.Options.render_head
#print axioms DashLive.Options.render_clean
#print axioms DashLive.Options.render_noWs
#print axioms DashLive.Options.c19_render_roundtrip
#print axioms DashLive.Options.c19_codec_laws
#print axioms DashLive.Options.c19_text_roundtrip_partial
#print axioms DashLive.Options.codec_roundtrip_astDateTime_c19
#print axioms DashLive.Options.codec_roundtrip_dtOrNone_c19
#print axioms DashLive.Options.codec_roundtrip_errorList_c19
#print axioms DashLive.Options.codec_roundtrip_c19
